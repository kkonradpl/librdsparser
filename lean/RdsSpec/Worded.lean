import RdsModel
import RdsSpec.Monitors
import RdsSpec.Statements
/-!
# RdsSpec.Worded — the history-quantified properties in their own words

Declarative readings of C01, C09, C10 and C17 directly over the call history, without the abstract machine `Mon`:
the sequence of receptions of a field since the last reset, "last element", "last adjacent equal pair",
"number of receptions of an AF code", "last value written to a key". The theorems of `RdsProofs/WordedProofs.lean`
(for C17: `RdsProofs/StateFrames.lean`) state that the getters of the model equal these readings after every op list.
-/
namespace RDS

/-- value of a field carried by a delivered group, if the group carries one on an accepted path -/
def selPi (g : Group) : Option Int := if g.ea = 0 then some (g.a : Int) else none
def selPty (g : Group) : Option Int := if g.eb = 0 then some ((g.b / 32 % 32 : Nat) : Int) else none
def selTp (g : Group) : Option Int := if g.eb = 0 then some ((g.b / 1024 % 2 : Nat) : Int) else none
def selTa (g : Group) : Option Int := if g.type = 0 ∧ g.eb = 0 then some ((g.b / 16 % 2 : Nat) : Int) else none
def selMs (g : Group) : Option Int := if g.type = 0 ∧ g.eb = 0 then some ((g.b / 8 % 2 : Nat) : Int) else none
def selEcc (g : Group) : Option Int :=
  if g.type = 1 ∧ g.versionB = false ∧ g.eb = 0 ∧ g.ec = 0 ∧ g.c / 4096 % 8 = 0 then some ((g.c % 256 : Nat) : Int) else none

/-- the receptions of a field since the last reset (`init`/`clear`), oldest first -/
def recvSeq (sel : Group → Option Int) (ops : List Op) : List Int :=
  ops.foldl (fun acc op =>
    match op with
    | .init | .clear => []
    | _ => match op.group?.bind sel with
           | some v => acc ++ [v]
           | none => acc) []

/-- normal mode: the getter shows the last reception, `unk` before the first one -/
def lastOr (unk : Int) (l : List Int) : Int := l.getLast?.getD unk

/-- extended check: the getter shows the value of the most recent two consecutive identical receptions
(scan oldest-first keeping the previous reception and the visible value), `unk` if there is no such pair -/
def extFold (unk : Int) (l : List Int) : Int :=
  (l.foldl (fun (st : Option Int × Int) v => (some v, if st.1 = some v then v else st.2)) (none, unk)).2

/-- the extended check is never switched on -/
def NormalMode (ops : List Op) : Prop := ∀ op ∈ ops, op ≠ .setExt true

/-- the extended check is switched on while the parser is in its reset state and never touched again:
`ops = setExt true :: rest` on a fresh parser, `rest` containing no `setExt` and no `init` -/
def ExtendedMode (ops : List Op) : Prop :=
  ∃ rest, ops = .setExt true :: rest ∧ ∀ op ∈ rest, (∀ v, op ≠ .setExt v) ∧ op ≠ .init

/-- AF codes carried by a delivered group on the accepted path (0A, blocks B and C error-free, first code ≠ 250) -/
def afCodes (g : Group) : List Nat :=
  if g.type = 0 ∧ g.versionB = false ∧ g.eb = 0 ∧ g.ec = 0 ∧ g.c / 256 % 256 ≠ 250 then [g.c / 256 % 256, g.c % 256] else []

/-- how often AF code `v` has been received since the last reset -/
def afCount (v : Nat) (ops : List Op) : Nat :=
  ops.foldl (fun n op =>
    match op with
    | .init | .clear => 0
    | _ => match op.group? with
           | some g => n + ((afCodes g).filter (· == v)).length
           | none => n) 0

/-- last value written to a threshold key since initialisation (clamped), 0 if none -/
def lastCorr (t : TextId) (k : BlockType) (ops : List Op) : Nat :=
  ops.foldl (fun cur op =>
    match op with
    | .init => 0
    | .setCorr t' k' v => if t' = t ∧ k' = k then min v 2 else cur
    | _ => cur) 0

def lastProg (t : TextId) (ops : List Op) : Bool :=
  ops.foldl (fun cur op =>
    match op with
    | .init => false
    | .setProg t' v => if t' = t then v else cur
    | _ => cur) false

def lastExt (ops : List Op) : Bool :=
  ops.foldl (fun cur op =>
    match op with
    | .init => false
    | .setExt v => v
    | _ => cur) false

end RDS
