import RdsModel.Generated
import RdsSpec.Reference
/-!
# RdsSpec.TableCheck — executable comparison of `Generated.*` with `Reference.*`

Two kinds of functions:

* `…OkAt` — closed `Bool` functions of the cell address, for the driver: `deviations256 g0OkAt`,
  `eccDeviations eccOkAt`, … list the deviating cells of any future `Generated.lean`;
* whole-table forms (`storedExpected`, `narrowExpected`, `eccRangeOk`, `isoClashes`, …) that walk each list once; the
  theorems of `RdsProofs/Table*.lean` evaluate these in the kernel (indexing a 256-element list per cell is quadratic
  there) or, for the charset, PTY, name and ISO tables, compare the generated list with the mapped and padded reference list.
-/
namespace RDS.TableCheck
open RDS

/-- indices (counted from `i`) at which the two lists differ; a length mismatch is reported at the
index where the shorter list ends -/
def diffIdx {α : Type} [BEq α] : List α → List α → Nat → List Nat
  | a :: as, b :: bs, i => if a == b then diffIdx as bs (i + 1) else i :: diffIdx as bs (i + 1)
  | [], [], _ => []
  | _, _, i => [i]

/-! ### C02 / C20: character tables -/

def storedExpected : List Bool := (List.range 256).map Reference.stored
def g0Expected : List Nat := (List.range 256).map Reference.g0Value
def narrowExpected : List Nat := (List.range 256).map Reference.narrowValue

/-- default build, byte `b` (0..255): stored-flag and stored value are as the reference says -/
def g0OkAt (b : Nat) : Bool :=
  Generated.g0Stored.getD b false == Reference.stored b &&
  Generated.g0.getD b 0 == Reference.g0Value b

/-- `RDSPARSER_DISABLE_UNICODE` build, byte `b` -/
def narrowOkAt (b : Nat) : Bool :=
  Generated.narrowStored.getD b false == Reference.stored b &&
  Generated.narrow.getD b 0 == Reference.narrowValue b

/-! ### C11: ECC × PI nibble -/

/-- cell of the extracted table: row 0 = PI unknown, row n+1 = PI country nibble n -/
def eccCell (row e : Nat) : Nat := (Generated.eccCountry.getD row []).getD e 0

/-- the reference value of the same cell -/
def eccRef (row e : Nat) : Nat := (Reference.iecTable.getD row []).getD e 0

def eccOkAt (row e : Nat) : Bool := eccCell row e == eccRef row e

/-- every cell is a valid enumerator -/
def eccRangeOkAt (row e : Nat) : Bool := eccCell row e < Generated.countryCount

/-- "unknown" wherever the standard allocates nothing: PI unknown, nibble 0, ECC not one of the
23 allocated bytes -/
def eccUnknownOkAt (row e : Nat) : Bool :=
  eccCell row e == 0 || (1 < row && Reference.eccCodes.contains e)

/-- whole-table form of `eccRangeOkAt` -/
def eccRangeOk (t : List (List Nat)) : Bool := t.all (fun r => r.all (fun x => x < Generated.countryCount))

/-- whole-table form of `eccUnknownOkAt`: rows 0 and 1 are zero; elsewhere a non-zero cell sits in
an allocated ECC column -/
def eccUnknownOk (t : List (List Nat)) : Bool :=
  (t.take 2).all (fun r => r.all (· == 0)) &&
  t.all (fun r => r.zipIdx.all (fun xe => xe.1 == 0 || Reference.eccCodes.contains xe.2))

/-! ### C18: PTY -/

def genPty : Reference.PtyTbl → Bool → List (Option String)
  | .name, false => Generated.ptyNameRds | .short, false => Generated.ptyShortRds
  | .long, false => Generated.ptyLongRds
  | .name, true => Generated.ptyNameRbds | .short, true => Generated.ptyShortRbds
  | .long, true => Generated.ptyLongRbds

def ptyExpectedList (t : Reference.PtyTbl) (rbds : Bool) : List (Option String) :=
  (List.range 256).map (Reference.ptyExpected t rbds)

/-- argument index `a` (argument mod 256: 0..127, then −128..−1) -/
def ptyOkAt (t : Reference.PtyTbl) (rbds : Bool) (a : Nat) : Bool :=
  (genPty t rbds).getD a none == Reference.ptyExpected t rbds a

def widthOk (w : Nat) : Option String → Bool
  | some s => s.length ≤ w
  | none => false

/-- the text returned for `a` fits the display width of its table -/
def ptyWidthOkAt (t : Reference.PtyTbl) (rbds : Bool) (a : Nat) : Bool :=
  match Reference.ptyWidth t with
  | some w => widthOk w ((genPty t rbds).getD a none)
  | none => true

/-! ### C18: countries -/

def inRange (a : Nat) : Bool := 0 < a && a < Generated.countryCount

def nameAt (a : Nat) : Option String := Generated.countryName.getD a none
def isoAt (a : Nat) : Option String := Generated.countryIso.getD a none

def namesExpected : List (Option String) := (List.range 256).map Reference.expectedName
def isoExpected : List (Option String) := (List.range 256).map Reference.expectedIso

def nameOkAt (a : Nat) : Bool := nameAt a == Reference.expectedName a

/-- out of range: `"??"`; in range: the ISO 3166-1 code (per `Reference.iso3166`) of the NAME that
the name lookup returns for the same argument -/
def isoOkAt (a : Nat) : Bool :=
  if inRange a then
    match nameAt a with
    | some n => isoAt a == some (Reference.isoOf n)
    | none => false
  else isoAt a == some "??"

/-- row-wise form: the code of the reference row of enumerator `a` -/
def isoRowOkAt (a : Nat) : Bool := isoAt a == Reference.expectedIso a

def shapeOk : Option String → Bool
  | some s => Reference.isoShape s
  | none => false

/-- in range: two capital letters or `"--"` -/
def isoShapeOkAt (a : Nat) : Bool := !inRange a || shapeOk (isoAt a)

/-- numeric code of a lookup result (0: placeholder, malformed or NULL) -/
def codeOf : Option String → Nat
  | some s => Reference.isoCode s
  | none => 0

/-- two in-range arguments with the same proper code name the same country -/
def isoDistinctOkAt (i j : Nat) : Bool :=
  !(inRange i && inRange j && codeOf (isoAt i) != 0 && codeOf (isoAt i) == codeOf (isoAt j)) ||
    Reference.sameCountry i j

/-- `j`s (counted from `j`) in `cs` carrying the proper code `c` of argument `i` without naming the
same country -/
def clashesWith (i c : Nat) : List Nat → Nat → List (Nat × Nat)
  | [], _ => []
  | d :: ds, j =>
    if c != 0 && c == d && !Reference.sameCountry i j then (i, j) :: clashesWith i c ds (j + 1)
    else clashesWith i c ds (j + 1)

/-- all pairs i < j (counted from `i`) of a list of numeric codes that share a proper code without
naming the same country -/
def clashes : List Nat → Nat → List (Nat × Nat)
  | [], _ => []
  | c :: cs, i => clashesWith i c cs (i + 1) ++ clashes cs (i + 1)

/-- whole-table form of `isoDistinctOkAt` over a table of lookup results: argument 0 and
arguments ≥ `countryCount` are out of range -/
def isoClashes (t : List (Option String)) : List (Nat × Nat) :=
  clashes (((t.take Generated.countryCount).drop 1).map codeOf) 1

/-! ### deviation lists (for `diagnose`) -/

def deviations256 (ok : Nat → Bool) : List Nat := (List.range 256).filter (fun a => !ok a)

/-- all (row, ecc) cells failing `ok` -/
def eccDeviations (ok : Nat → Nat → Bool) : List (Nat × Nat) :=
  (List.range 17).flatMap fun row => ((List.range 256).filter (fun e => !ok row e)).map (row, ·)

/-- all pairs i < j failing `isoDistinctOkAt` -/
def isoDistinctDeviations : List (Nat × Nat) :=
  (List.range 256).flatMap fun i =>
    ((List.range 256).filter (fun j => i < j && !isoDistinctOkAt i j)).map (i, ·)

end RDS.TableCheck
