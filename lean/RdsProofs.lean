import RdsProofs.Frame
import RdsProofs.Handlers
import RdsProofs.Anatomy
import RdsProofs.Sim
import RdsProofs.Inv
import RdsProofs.MonGroup
import RdsProofs.Reentrant
import RdsProofs.Toy

import RdsProofs.CellsSingle
import RdsProofs.CellsAddressed
import RdsProofs.CellsExpected
import RdsProofs.CellsDispatch
import RdsProofs.CellsProofs
import RdsProofs.RefineProofs
import RdsProofs.C08Cb

import RdsProofs.WFBase
import RdsProofs.WFProofs
import RdsProofs.C15Proofs
import RdsProofs.ReentrantObs
import RdsProofs.LinkBase
import RdsProofs.LinkGroups
import RdsProofs.LinkProofs
import RdsProofs.Reach

import RdsProofs.C03Proofs
import RdsProofs.NormalShown
import RdsProofs.C04Frame
import RdsProofs.C04Stages
import RdsProofs.C04Handlers
import RdsProofs.C04Redeliver
import RdsProofs.C04Proofs
import RdsProofs.C12Calendar
import RdsProofs.C12Layout
import RdsProofs.C12Proofs
import RdsProofs.C13Proofs
import RdsProofs.C14Proofs
import RdsProofs.C14RoundTrip
import RdsProofs.C19Proofs

import RdsProofs.TableBase
import RdsProofs.TableC02
import RdsProofs.TableC11
import RdsProofs.TableC18
import RdsProofs.TableC20
import RdsProofs.C20Base
import RdsProofs.C20Ascii
import RdsProofs.C20Mask
import RdsProofs.C20Proofs

import RdsProofs.WordedBase
import RdsProofs.WordedProofs
import RdsProofs.StateFrames
import RdsProofs.C09TextIndep
import RdsProofs.C05Proofs
import RdsProofs.C16Received
import RdsProofs.C07History

import RdsProofs.TransBits
import RdsProofs.TransAbs
import RdsProofs.TransString
import RdsProofs.TransBuffer
import RdsProofs.TransUtils
import RdsProofs.TransGroupsBase
import RdsProofs.TransGroupsText
import RdsProofs.TransGroupsRt
import RdsProofs.TransGroups
import RdsProofs.TransTables
