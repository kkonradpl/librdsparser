import RdsProofs.Reach
import RdsSpec.Worded
/-!
# RdsProofs.WordedBase — the vocabulary of the history theorems, one call further at a time

The folds of RdsSpec/Worded.lean (`recvSeq`, `afCount`, `lastCorr`) after one more call. `AFld.scan`, the abstract
field after a reception sequence: its `vis` is `lastOr` in normal mode and `extFold` under the extended check
(`wd_extSt` is the scan state of `extFold`). And three notions that statements of C09 and C10 use and that are defined
here: `ac09_pristine` (no group delivered since the last reset), `ExtendedMode'` (the extended check switched on in
such a state, wider than `ExtendedMode`), `ac09_countrySeq` (the countries a history looks up).
-/
namespace RDS

theorem wd_group_none_of (op : Op) (h1 : op = .init ∨ op = .clear ∨ (∃ v, op = .setExt v)) :
    op.group? = none := by
  rcases h1 with h | h | ⟨v, h⟩ <;> subst h <;> rfl

/-! ## folds over the call history that start afresh at every reset

`recvSeq`, `afCount` and `ac09_ctySt` are of this shape; one op further they are the initial value after a reset and
one application of their step function otherwise. -/

theorem wd_rfold_reset {β} {F : List Op → β} {z : β} {f : β → Op → β}
    (hF : ∀ ops, F ops = ops.foldl (fun acc op => match op with | .init | .clear => z | _ => f acc op) z)
    (ops : List Op) {op : Op} (h : op = .init ∨ op = .clear) : F (ops ++ [op]) = z := by
  rw [hF, List.foldl_append]
  rcases h with h | h <;> subst h <;> rfl

theorem wd_rfold_other {β} {F : List Op → β} {z : β} {f : β → Op → β}
    (hF : ∀ ops, F ops = ops.foldl (fun acc op => match op with | .init | .clear => z | _ => f acc op) z)
    (ops : List Op) {op : Op} (h1 : op ≠ .init) (h2 : op ≠ .clear) : F (ops ++ [op]) = f (F ops) op := by
  rw [hF, hF, List.foldl_append]
  cases op <;> first | rfl | exact absurd rfl h1 | exact absurd rfl h2

theorem wd_foldl_append_init {α β} (f : β → α → β) (z : β) (a b : List α) (h : a.foldl f z = z) :
    (a ++ b).foldl f z = b.foldl f z := by
  rw [List.foldl_append, h]

theorem wd_recvSeq_nil (sel : Group → Option Int) : recvSeq sel [] = [] := rfl

theorem wd_recvSeq_reset (sel : Group → Option Int) (ops : List Op) {op : Op} (h : op = .init ∨ op = .clear) :
    recvSeq sel (ops ++ [op]) = [] :=
  wd_rfold_reset (F := recvSeq sel) (fun _ => rfl) ops h

theorem wd_recvSeq_other (sel : Group → Option Int) (ops : List Op) {op : Op} (h1 : op ≠ .init) (h2 : op ≠ .clear) :
    recvSeq sel (ops ++ [op]) = match op.group?.bind sel with
      | some v => recvSeq sel ops ++ [v]
      | none => recvSeq sel ops :=
  wd_rfold_other (F := recvSeq sel) (fun _ => rfl) ops h1 h2

theorem wd_recvSeq_group (sel : Group → Option Int) (ops : List Op) {op : Op} {g : Group} (hg : op.group? = some g) :
    recvSeq sel (ops ++ [op]) = recvSeq sel ops ++ (sel g).toList := by
  rw [wd_recvSeq_other sel ops (Op.ne_reset_of_group hg).1 (Op.ne_reset_of_group hg).2, hg]
  show (match sel g with | some v => _ | none => _) = _
  cases sel g <;> simp

theorem wd_recvSeq_nogroup (sel : Group → Option Int) (ops : List Op) {op : Op} (hg : op.group? = none)
    (h1 : op ≠ .init) (h2 : op ≠ .clear) : recvSeq sel (ops ++ [op]) = recvSeq sel ops := by
  rw [wd_recvSeq_other sel ops h1 h2, hg]
  rfl

theorem wd_afCount_reset (v : Nat) (ops : List Op) {op : Op} (h : op = .init ∨ op = .clear) :
    afCount v (ops ++ [op]) = 0 :=
  wd_rfold_reset (F := afCount v) (fun _ => rfl) ops h

theorem wd_afCount_group (v : Nat) (ops : List Op) {op : Op} {g : Group} (hg : op.group? = some g) :
    afCount v (ops ++ [op]) = afCount v ops + ((afCodes g).filter (· == v)).length := by
  refine (wd_rfold_other (F := afCount v) (fun _ => rfl) ops (Op.ne_reset_of_group hg).1 (Op.ne_reset_of_group hg).2).trans ?_
  rw [hg]

theorem wd_afCount_nogroup (v : Nat) (ops : List Op) {op : Op} (hg : op.group? = none)
    (h1 : op ≠ .init) (h2 : op ≠ .clear) : afCount v (ops ++ [op]) = afCount v ops := by
  refine (wd_rfold_other (F := afCount v) (fun _ => rfl) ops h1 h2).trans ?_
  rw [hg]

theorem lastCorr_snoc (t : TextId) (k : BlockType) (ops : List Op) (op : Op) :
    lastCorr t k (ops ++ [op]) = (match op with
      | .init => 0
      | .setCorr t' k' v => if t' = t ∧ k' = k then min v 2 else lastCorr t k ops
      | _ => lastCorr t k ops) := by
  unfold lastCorr
  rw [List.foldl_append]
  rfl

/-- the scan state of `extFold`: (previous reception, visible value) -/
def wd_extSt (unk : Int) (l : List Int) : Option Int × Int :=
  l.foldl (fun (st : Option Int × Int) v => (some v, if st.1 = some v then v else st.2)) (none, unk)

theorem wd_extFold_eq (unk : Int) (l : List Int) : extFold unk l = (wd_extSt unk l).2 := rfl

theorem wd_extSt_nil (unk : Int) : wd_extSt unk [] = (none, unk) := rfl

theorem wd_extSt_snoc (unk : Int) (l : List Int) (v : Int) :
    wd_extSt unk (l ++ [v]) =
      (some v, if (wd_extSt unk l).1 = some v then v else (wd_extSt unk l).2) := by
  unfold wd_extSt
  rw [List.foldl_append]
  rfl

theorem wd_extSt_fst (unk : Int) (l : List Int) : (wd_extSt unk l).1 = l.getLast? := by
  induction l using List.snoc_ind with
  | nil => rfl
  | snoc l a _ => rw [wd_extSt_snoc]; simp

theorem wd_extSt_snd (unk : Int) (l : List Int) :
    (wd_extSt unk l).2 = unk ∨
      ∃ i, l[i]? = some (wd_extSt unk l).2 ∧ l[i + 1]? = some (wd_extSt unk l).2 := by
  induction l using List.snoc_ind with
  | nil => exact Or.inl rfl
  | snoc l a ih =>
    rw [wd_extSt_snoc]
    by_cases hl : (wd_extSt unk l).1 = some a
    · -- `a` comes twice in a row at the end
      obtain ⟨ys, rfl⟩ := List.getLast?_eq_some_iff.1 ((wd_extSt_fst unk l).symm.trans hl)
      rw [if_pos hl]
      exact Or.inr ⟨ys.length, by simp, by simp⟩
    · rw [if_neg hl]
      refine ih.imp_right fun ⟨i, h1, h2⟩ => ?_
      obtain ⟨hi, _⟩ := List.getElem?_eq_some_iff.1 h2
      exact ⟨i, by rw [List.getElem?_append_left (by omega)]; exact h1, by rw [List.getElem?_append_left hi]; exact h2⟩

theorem wd_lastOr_nil (unk : Int) : lastOr unk [] = unk := rfl

theorem wd_lastOr_snoc (unk : Int) (l : List Int) (v : Int) : lastOr unk (l ++ [v]) = v := by
  simp [lastOr]

/-- the abstract field after the receptions `l` (oldest first) since a reset, all taken in mode `ext` -/
def AFld.scan (ext : Bool) (unk : Int) (l : List Int) : AFld := l.foldl (AFld.recv ext) ⟨none, unk⟩

theorem AFld.scan_snoc (ext : Bool) (unk : Int) (l : List Int) (v : Int) :
    AFld.scan ext unk (l ++ [v]) = (AFld.scan ext unk l).recv ext v := by
  unfold AFld.scan
  rw [List.foldl_append]
  rfl

theorem AFld.scan_toList (ext : Bool) (unk : Int) (l : List Int) (o : Option Int) :
    AFld.scan ext unk (l ++ o.toList) = (AFld.scan ext unk l).recvO ext o := by
  cases o
  · rw [Option.toList_none, List.append_nil]; rfl
  · exact AFld.scan_snoc ext unk l _

theorem AFld.scan_normal (unk : Int) (l : List Int) : (AFld.scan false unk l).vis = lastOr unk l := by
  induction l using List.snoc_ind with
  | nil => rfl
  | snoc l a _ => rw [AFld.scan_snoc, wd_lastOr_snoc]; rfl

theorem AFld.scan_ext (unk : Int) (l : List Int) : (AFld.scan true unk l).vis = extFold unk l := by
  have h : AFld.scan true unk l = ⟨(wd_extSt unk l).1, (wd_extSt unk l).2⟩ := by
    induction l using List.snoc_ind with
    | nil => rfl
    | snoc l a ih => rw [AFld.scan_snoc, ih, wd_extSt_snoc]; rfl
  rw [h]; rfl

def ac09_pristineStep (q : Bool) (op : Op) : Bool :=
  match op with
  | .init | .clear => true
  | _ => q && op.group?.isNone

/-- "the parser is in its reset state": no call since the last `init`/`clear` (or since creation) has delivered a
group. Setters, registrations, getters and `parseString` calls that fail are allowed after the last reset; anything
at all is allowed before it. -/
def ac09_pristine (ops : List Op) : Bool := ops.foldl ac09_pristineStep true

/-- `ExtendedMode` with any `pre` that leaves the parser in its reset state in front of the switch:
`ops = pre ++ setExt true :: rest`, `rest` contains no `setExt` and no `init` (`clear` is allowed). -/
def ExtendedMode' (ops : List Op) : Prop :=
  ∃ pre rest, ops = pre ++ .setExt true :: rest ∧ ac09_pristine pre = true ∧
    ∀ op ∈ rest, (∀ v, op ≠ .setExt v) ∧ op ≠ .init

/-- one step of the country scan; the state is (PI receptions, countries looked up) since the last reset. A delivered
group first contributes its PI; a 1A variant-0 group with error-free blocks B and C then contributes the table entry
for (PI shown at that moment, its ECC), the PI shown being the two-in-a-row reading of the PI receptions so far, this
group's included. -/
def ac09_ctyStep (cfg : Cfg) (st : List Int × List Int) (op : Op) : List Int × List Int :=
  match op with
  | .init | .clear => ([], [])
  | _ =>
    match op.group? with
    | none => st
    | some g =>
      let pis := match selPi g with
        | some v => st.1 ++ [v]
        | none => st.1
      (pis, match selEcc g with
            | some e => st.2 ++ [eccLookup cfg (extFold (-1) pis) e]
            | none => st.2)

def ac09_ctySt (cfg : Cfg) (ops : List Op) : List Int × List Int := ops.foldl (ac09_ctyStep cfg) ([], [])

/-- the countries looked up since the last reset, oldest first (extended-check reading of the PI) -/
def ac09_countrySeq (cfg : Cfg) (ops : List Op) : List Int := (ac09_ctySt cfg ops).2

theorem ac09_pristine_snoc (ops : List Op) (op : Op) :
    ac09_pristine (ops ++ [op]) = ac09_pristineStep (ac09_pristine ops) op := by
  simp only [ac09_pristine, List.foldl_append, List.foldl_cons, List.foldl_nil]

theorem ac09_pristineStep_other (q : Bool) (op : Op) (h1 : op ≠ .init) (h2 : op ≠ .clear) :
    ac09_pristineStep q op = (q && op.group?.isNone) := by
  cases op <;> first | rfl | exact absurd rfl h1 | exact absurd rfl h2

theorem ac09_pristine_nil : ac09_pristine [] = true := rfl

theorem ac09_pristine_append_quiet (p q : List Op) (hp : ac09_pristine p = true)
    (h : ∀ op ∈ q, op.group? = none) : ac09_pristine (p ++ q) = true := by
  induction q using List.snoc_ind with
  | nil => rw [List.append_nil]; exact hp
  | snoc l a ih =>
    rw [← List.append_assoc, ac09_pristine_snoc, ih (fun op ho => h op (List.mem_append_left _ ho))]
    rcases a.kind_cases with rfl | rfl | ⟨g, hg⟩ | ⟨hg, h1, h2⟩
    · rfl
    · rfl
    · cases (h a (by simp)).symm.trans hg
    · rw [ac09_pristineStep_other _ _ h1 h2, hg]; rfl

theorem ac09_pristine_of_quiet (ops : List Op) (h : ∀ op ∈ ops, op.group? = none) : ac09_pristine ops = true :=
  ac09_pristine_append_quiet [] ops rfl h

theorem ac09_pristine_of_reset (p q : List Op) (r : Op) (hr : r = .init ∨ r = .clear)
    (h : ∀ op ∈ q, op.group? = none) : ac09_pristine (p ++ r :: q) = true := by
  have e : p ++ r :: q = (p ++ [r]) ++ q := by simp
  rw [e]
  refine ac09_pristine_append_quiet _ _ ?_ h
  rw [ac09_pristine_snoc]
  rcases hr with hr | hr <;> subst hr <;> rfl

theorem ac09_pristine_split (ops : List Op) (h : ac09_pristine ops = true) :
    ∃ p q, ops = p ++ q ∧ (p = [] ∨ ∃ p0 r, p = p0 ++ [r] ∧ (r = .init ∨ r = .clear)) ∧
      ∀ op ∈ q, op.group? = none ∧ op ≠ .init ∧ op ≠ .clear := by
  induction ops using List.snoc_ind with
  | nil => exact ⟨[], [], rfl, Or.inl rfl, fun _ h => by cases h⟩
  | snoc l a ih =>
    rw [ac09_pristine_snoc] at h
    by_cases h1 : a = .init
    · exact ⟨l ++ [a], [], by simp, Or.inr ⟨l, a, rfl, Or.inl h1⟩, fun _ h => by cases h⟩
    · by_cases h2 : a = .clear
      · exact ⟨l ++ [a], [], by simp, Or.inr ⟨l, a, rfl, Or.inr h2⟩, fun _ h => by cases h⟩
      · rw [ac09_pristineStep_other _ _ h1 h2, Bool.and_eq_true] at h
        obtain ⟨p, q, e, hp, hq⟩ := ih h.1
        refine ⟨p, q ++ [a], by rw [e, List.append_assoc], hp, ?_⟩
        intro op ho
        rcases List.mem_append.mp ho with ho | ho
        · exact hq op ho
        · simp only [List.mem_singleton] at ho
          subst ho
          exact ⟨by simpa using h.2, h1, h2⟩

theorem ac09_extendedMode_toPrime {ops : List Op} (h : ExtendedMode ops) : ExtendedMode' ops := by
  obtain ⟨rest, e, hr⟩ := h
  exact ⟨[], rest, e, rfl, hr⟩

theorem ac09_ctyStep_init (cfg : Cfg) (st : List Int × List Int) : ac09_ctyStep cfg st .init = ([], []) := rfl
theorem ac09_ctyStep_clear (cfg : Cfg) (st : List Int × List Int) : ac09_ctyStep cfg st .clear = ([], []) := rfl

theorem ac09_ctySt_reset (cfg : Cfg) (ops : List Op) {op : Op} (h : op = .init ∨ op = .clear) :
    ac09_ctySt cfg (ops ++ [op]) = ([], []) :=
  wd_rfold_reset (F := ac09_ctySt cfg) (fun _ => rfl) ops h

theorem ac09_ctySt_group (cfg : Cfg) (ops : List Op) {op : Op} {g : Group} (hg : op.group? = some g) :
    ac09_ctySt cfg (ops ++ [op]) = ((ac09_ctySt cfg ops).1 ++ (selPi g).toList, (ac09_ctySt cfg ops).2 ++
      ((selEcc g).map (eccLookup cfg (extFold (-1) ((ac09_ctySt cfg ops).1 ++ (selPi g).toList)))).toList) := by
  refine (wd_rfold_other (F := ac09_ctySt cfg) (fun _ => rfl) ops (Op.ne_reset_of_group hg).1 (Op.ne_reset_of_group hg).2).trans ?_
  rw [hg]
  dsimp only
  cases selPi g <;> cases selEcc g <;> simp

theorem ac09_ctySt_nogroup (cfg : Cfg) (ops : List Op) {op : Op} (hg : op.group? = none)
    (h1 : op ≠ .init) (h2 : op ≠ .clear) : ac09_ctySt cfg (ops ++ [op]) = ac09_ctySt cfg ops := by
  refine (wd_rfold_other (F := ac09_ctySt cfg) (fun _ => rfl) ops h1 h2).trans ?_
  rw [hg]

theorem ac09_ctySt_fst (cfg : Cfg) (ops : List Op) : (ac09_ctySt cfg ops).1 = recvSeq selPi ops := by
  induction ops using List.snoc_ind with
  | nil => rfl
  | snoc l a ih =>
    rcases a.kind_cases with h1 | h1 | ⟨g, hg⟩ | ⟨hg, h1, h2⟩
    · rw [ac09_ctySt_reset cfg l (Or.inl h1), wd_recvSeq_reset _ l (Or.inl h1)]
    · rw [ac09_ctySt_reset cfg l (Or.inr h1), wd_recvSeq_reset _ l (Or.inr h1)]
    · rw [ac09_ctySt_group cfg l hg, wd_recvSeq_group _ l hg, ih]
    · rw [ac09_ctySt_nogroup cfg l hg h1 h2, wd_recvSeq_nogroup _ l hg h1 h2, ih]

theorem ac09_countrySeq_group (cfg : Cfg) (ops : List Op) {op : Op} {g : Group} (hg : op.group? = some g) :
    ac09_countrySeq cfg (ops ++ [op]) = ac09_countrySeq cfg ops ++
      ((selEcc g).map (eccLookup cfg (extFold (-1) (recvSeq selPi (ops ++ [op]))))).toList := by
  unfold ac09_countrySeq
  rw [ac09_ctySt_group cfg ops hg, wd_recvSeq_group _ ops hg, ac09_ctySt_fst]

end RDS

