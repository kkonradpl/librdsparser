import RdsProofs.TransAbs
import RdsProofs.C14Proofs
/-!
# RdsProofs.TransUtils — the translated `rdsparser_utils_convert` (`src/utils.c`) refines `utilsConvert`

`c_rdsparser_utils_convert` calls the trusted models of three libc functions (`RdsC/Prelude.lean`): `libc_strlen`,
`libc_isxdigit` and `libc_strtol16`. The model of `strtol` is as lenient as the real function (white space, sign, `0x`
prefix, clamping). The C function is nevertheless exactly the strict `utilsConvert` of `RdsModel/Hex.lean`
(`utils_convert_refines`): its `isxdigit` loop over the whole input makes every lenient path of `strtol` unreachable.
-/

namespace RDS.C
open RDS

theorem tu_hexval (c : Nat) : libc_hexval (c : Int) = (hexVal? c).map Int.ofNat := by
  unfold libc_hexval
  cases h : hexVal? c with
  | some v =>
    obtain ⟨-, hr⟩ := hexVal_digit c v h
    show _ = some (v : Int)
    rcases hr with hr | hr | hr
    · rw [if_pos (by omega)]; exact congrArg some (by omega)
    · rw [if_neg (by omega), if_pos (by omega)]; exact congrArg some (by omega)
    · rw [if_neg (by omega), if_neg (by omega), if_pos (by omega)]; exact congrArg some (by omega)
  | none =>
    have hn := c14_hexVal_isSome c
    rw [h] at hn
    simp only [isHexByte, Option.isSome_none, Bool.false_eq, Bool.or_eq_false_iff, Bool.and_eq_false_iff,
      decide_eq_false_iff_not] at hn
    rw [if_neg (by omega), if_neg (by omega), if_neg (by omega)]; rfl

theorem tu_hexval_isSome (c : Nat) : (libc_hexval (c : Int)).isSome = (hexVal? c).isSome := by
  rw [tu_hexval]; cases hexVal? c <;> rfl

/-- `u8 (i8 ·)` is `(unsigned char)input[i]` -/
theorem tu_isxdigit (b : Nat) (hb : b < 256) :
    (libc_isxdigit (u8 (i8 (b : Int))) != 0) = (hexVal? b).isSome := by
  rw [u8_i8, u8_natCast_of_lt hb, ← tu_hexval_isSome]
  unfold libc_isxdigit
  cases (libc_hexval (b : Int)).isSome <;> rfl

theorem tu_hexrun (cs : List Nat) : ∀ (a v n : Nat), cs.foldl c14_hexStep (some a) = some v →
    libc_hexrun (cs.map Int.ofNat) (a : Int) n = ((v : Int), n + cs.length) := by
  induction cs with
  | nil =>
    intro a v n h
    rw [Option.some.inj h]; rfl
  | cons c cs ih =>
    intro a v n h
    rw [List.foldl_cons] at h
    cases hc : hexVal? c with
    | none => rw [c14_hexStep_some_none a c hc, c14_hexFold_none] at h; cases h
    | some d =>
      rw [c14_hexStep_some a c d hc] at h
      rw [List.length_cons, Nat.add_comm cs.length, ← Nat.add_assoc, ← ih (a * 16 + d) v (n + 1) h]
      show libc_hexrun (Int.ofNat c :: cs.map Int.ofNat) (a : Int) n = _
      rw [libc_hexrun, show libc_hexval (Int.ofNat c) = some (d : Int) from (tu_hexval c).trans (by rw [hc]; rfl)]
      show libc_hexrun _ ((a : Int) * 16 + (d : Int)) (n + 1) = _
      rw [show (a : Int) * 16 + (d : Int) = ((a * 16 + d : Nat) : Int) by omega]

theorem tu_all_digits (cs : List Nat) (h : ∀ c ∈ cs, (hexVal? c).isSome) :
    ∀ c ∈ cs.map Int.ofNat, (libc_hexval c).isSome := by
  intro c hc
  obtain ⟨x, hx, rfl⟩ := List.mem_map.1 hc
  exact (tu_hexval_isSome x).trans (h x hx)

theorem tu_strtol_hex (cs : List Nat) (h : ∀ c ∈ cs, (hexVal? c).isSome) (hl : cs.length ≤ 15) :
    ∃ v, hexNum? cs = some v ∧ v < 16 ^ cs.length ∧ libc_strtol16 (cs.map Int.ofNat) = ((v : Int), cs.length) := by
  have hs : (hexNum? cs).isSome = true := by
    rw [c14_hexNum_isSome, List.all_eq_true]
    exact fun c hc => (c14_hexVal_isSome c).symm.trans (h c hc)
  obtain ⟨v, hv⟩ := Option.isSome_iff_exists.1 hs
  have hlt := c14_hexNum_lt cs v hv
  have hv' : v < 16 ^ 15 := Nat.lt_of_lt_of_le hlt (Nat.pow_le_pow_right (by decide) hl)
  have hr := tu_hexrun cs 0 v 0 hv
  rw [Nat.zero_add, ← List.length_map (f := Int.ofNat)] at hr
  refine ⟨v, hv, hlt, ?_⟩
  have := libc_strtol16_digits _ (tu_all_digits cs h) v hr (by omega)
    (by have : (16 : Nat) ^ 15 = 1152921504606846976 := by decide
        unfold libc_LONG_MAX; omega)
  rwa [List.length_map] at this

theorem tu_getD_map (bytes : List Nat) (m : Nat) :
    (bytes.map Int.ofNat).getD m 0 = ((bytes.getD m 0 : Nat) : Int) := by
  simp only [List.getD_eq_getElem?_getD, List.getElem?_map]
  cases bytes[m]? <;> rfl

/-- the `isxdigit` loop over the whole input, pasted from the translated `c_rdsparser_utils_convert` (`r` is what it
returns early); `tu_accept`, `tu_reject_nonhex`, `tu_reject_length` rewrite with it by `simp only`, and fail there when the loop changes -/
theorem tu_xdigit_loop (bytes : List Nat) (hb : ∀ b ∈ bytes, 1 ≤ b ∧ b < 256) {α : Type} (r : α) :
    forRange (bytes.length : Int) (none : Option α) (fun acc i => if acc.isSome then acc else
        if !(libc_isxdigit (u8 (i8 (getI (bytes.map Int.ofNat) i))) != 0) then some r else none) =
      if bytes.any (fun b => !(hexVal? b).isSome) then some r else none := by
  rw [forRange_find _ (fun i => !(libc_isxdigit (u8 (i8 (getI (bytes.map Int.ofNat) i))) != 0)) fun _ => r,
    find?_range_length bytes (fun b => !(hexVal? b).isSome) _ fun i h => by
      rw [getI_natCast, tu_getD_map, List.getD_eq_getElem?_getD, List.getElem?_eq_getElem h, Option.getD_some,
        tu_isxdigit _ (hb _ (List.getElem_mem h)).2],
    ← List.findIdx?_isSome]
  cases bytes.findIdx? fun b => !(hexVal? b).isSome <;> rfl

theorem tu_any_false (bytes : List Nat) (h : bytes.any (fun b => !(hexVal? b).isSome) = false) :
    ∀ c ∈ bytes, (hexVal? c).isSome := by
  intro c hc
  have := List.any_eq_false.1 h c hc
  cases hv : hexVal? c with
  | none => rw [hv] at this; exact absurd this (by simp)
  | some v => rfl

theorem tu_forRange4 {σ : Type} (init : σ) (f : σ → Int → σ) :
    forRange 4 init f = f (f (f (f init 0) 1) 2) 3 := rfl

theorem tu_loop4 {σ : Type} (f : σ → Int → σ) (init : σ) (P : Nat → σ → Prop) (h0 : P 0 init)
    (h1 : ∀ a, P 0 a → P 1 (f a 0)) (h2 : ∀ a, P 1 a → P 2 (f a 1)) (h3 : ∀ a, P 2 a → P 3 (f a 2))
    (h4 : ∀ a, P 3 a → P 4 (f a 3)) : P 4 (forRange 4 init f) :=
  forRange_induct 4 f init P h0 fun k hk => by
    match k, hk with
    | 0, _ => exact h1 | 1, _ => exact h2 | 2, _ => exact h3 | 3, _ => exact h4

/-- a `char` buffer holding bytes 1..255 and a terminating NUL, read as a C string -/
theorem tu_cstr (l : List Nat) (h : ∀ b ∈ l, 1 ≤ b ∧ b < 256) :
    cstrOfChars (l.map (fun (b : Nat) => i8 (b : Int)) ++ [0]) = l.map Int.ofNat := by
  induction l with
  | nil => rfl
  | cons b l ih =>
    have hb := h b List.mem_cons_self
    have e1 : (i8 (b : Int) != 0) = true := by rw [bne_iff_ne]; unfold i8; omega
    have e2 : u8 (i8 (b : Int)) = Int.ofNat b := by rw [u8_i8]; exact u8_natCast_of_lt hb.2
    unfold cstrOfChars at ih ⊢
    rw [List.map_cons, List.cons_append, List.takeWhile_cons, e1, if_pos rfl, List.map_cons, e2,
      ih fun x hx => h x (List.mem_cons_of_mem _ hx), List.map_cons]

theorem tu_err_bits (e : Nat) (he : e < 256) :
    u8 (shr (band (u8 (e : Int)) 192) 6) = ((e / 64 % 4 : Nat) : Int) ∧
    u8 (shr (band (u8 (e : Int)) 48) 4) = ((e / 16 % 4 : Nat) : Int) ∧
    u8 (shr (band (u8 (e : Int)) 12) 2) = ((e / 4 % 4 : Nat) : Int) ∧
    u8 (band (u8 (e : Int)) 3) = ((e % 4 : Nat) : Int) := by
  rw [u8_natCast_of_lt he]
  exact ⟨wrap_shr_band e 6 2 8 (by decide), wrap_shr_band e 4 2 8 (by decide), wrap_shr_band e 2 2 8 (by decide),
    wrap_band_low e 2 8 (by decide)⟩

theorem tu_i8_zero : i8 0 = 0 := by decide

theorem tu_slice4 (l : List Nat) (i : Nat) (h : i + 4 ≤ l.length) :
    (l.drop i).take 4 = [l.getD i 0, l.getD (i + 1) 0, l.getD (i + 2) 0, l.getD (i + 3) 0] := by
  have e : ∀ j (hj : j < l.length), l.getD j 0 = l[j] := fun j hj => by
    rw [List.getD_eq_getElem?_getD, List.getElem?_eq_getElem hj]; rfl
  rw [List.drop_eq_getElem_cons (by omega : i < l.length), List.drop_eq_getElem_cons (by omega : i + 1 < l.length),
    List.drop_eq_getElem_cons (by omega : i + 1 + 1 < l.length),
    List.drop_eq_getElem_cons (by omega : i + 1 + 1 + 1 < l.length),
    e i (by omega), e (i + 1) (by omega), e (i + 2) (by omega), e (i + 3) (by omega)]
  rfl

/-- one block of four digits at offset `i`: the model reads it with `hexNum?`, the C code copies it to a buffer, adds
the NUL and calls `strtol` -/
theorem tu_block_at (bytes : List Nat) (hb : ∀ b ∈ bytes, 1 ≤ b ∧ b < 256) (hx : ∀ c ∈ bytes, (hexVal? c).isSome)
    (i : Nat) (h : i + 4 ≤ bytes.length) :
    ∃ v, hexNum? ((bytes.drop i).take 4) = some v ∧ u16 (v : Int) = v ∧
      let q := [bytes.getD i 0, bytes.getD (i + 1) 0, bytes.getD (i + 2) 0, bytes.getD (i + 3) 0]
      cstrOfChars (q.map (fun (b : Nat) => i8 (b : Int)) ++ [0]) = q.map Int.ofNat ∧
        libc_strtol16 (q.map Int.ofNat) = ((v : Int), 4) := by
  obtain ⟨v, hv, hlt, hs⟩ := tu_strtol_hex ((bytes.drop i).take 4)
    (fun c hc => hx c (List.mem_of_mem_drop (List.mem_of_mem_take hc))) (by rw [List.length_take]; omega)
  have hc := tu_cstr ((bytes.drop i).take 4) fun c hc => hb c (List.mem_of_mem_drop (List.mem_of_mem_take hc))
  rw [tu_slice4 bytes i h] at hlt hs hc
  simp only [List.length_cons, List.length_nil, Nat.reduceAdd, Nat.reducePow] at hlt hs
  exact ⟨v, hv, u16_of_range (Int.natCast_nonneg v) (by omega), hc, hs⟩

/-- 16 digits, or 18 with the error byte; for 16 the tail is empty and `e = 0` -/
theorem tu_accept (bytes : List Nat) (hb : ∀ b ∈ bytes, 1 ≤ b ∧ b < 256)
    (hgood : bytes.any (fun b => !(hexVal? b).isSome) = false) (hlen : bytes.length = 16 ∨ bytes.length = 18)
    (d0 e0 : List Int) (hd : d0.length = 4) (he : e0.length = 4) :
    ∃ g, utilsConvert bytes = some g ∧
      c_rdsparser_utils_convert (bytes.map Int.ofNat) d0 e0 = (1, dataOf g, errorsOf g) := by
  have hx := tu_any_false bytes hgood
  obtain ⟨v0, n0, u0, c0, s0⟩ := tu_block_at bytes hb hx 0 (by omega)
  obtain ⟨v1, n1, u1, c1, s1⟩ := tu_block_at bytes hb hx 4 (by omega)
  obtain ⟨v2, n2, u2, c2, s2⟩ := tu_block_at bytes hb hx 8 (by omega)
  obtain ⟨v3, n3, u3, c3, s3⟩ := tu_block_at bytes hb hx 12 (by omega)
  simp only [Nat.reduceAdd, List.drop_zero, List.map_cons, List.map_nil, List.cons_append, List.nil_append,
    Int.ofNat_eq_natCast] at n0 c0 s0 c1 s1 c2 s2 c3 s3
  obtain ⟨e, nT, bT, sT⟩ := tu_strtol_hex (bytes.drop 16) (fun c hc => hx c (List.mem_of_mem_drop hc))
    (by rw [List.length_drop]; omega)
  rw [List.map_drop] at sT
  obtain ⟨y0, y1, y2, y3, rfl⟩ := len4 d0 hd
  obtain ⟨z0, z1, z2, z3, rfl⟩ := len4 e0 he
  refine ⟨⟨v0, v1, v2, v3, e / 64 % 4, e / 16 % 4, e / 4 % 4, e % 4⟩, ?_, ?_⟩
  · unfold utilsConvert
    rcases hlen with hlen | hlen <;> simp [hlen, n0, n1, n2, n3, nT]
  · unfold c_rdsparser_utils_convert
    simp only [libc_strlen, List.length_map, Int.ofNat_eq_natCast, tu_xdigit_loop bytes hb, hgood,
      Bool.false_eq_true, if_false]
    -- The four-block loop is the same in both branches. `tu_forRange4` unrolls it and the copy loop inside; in iteration
    -- `k` the copies and the NUL fill `buffer` with the four bytes at `4k` (`listSet_lit`, `List.set_cons_*` on the
    -- replicated zeros, `tu_getD_map` for the reads, the simprocs for the indices `4k + i`), which is the
    -- `q.map i8 ++ [0]` of `tu_block_at`: `c_k` reads it back as the digit string, `s_k` gives `strtol`'s value and the
    -- end index 4, so that `end` is empty and the test `*end != 0` fails (`List.getD_nil`, `tu_i8_zero`), and `u_k`
    -- removes the conversion to `uint16_t`.
    simp only [Option.isSome_none, Bool.false_eq_true, if_false, tu_forRange4, u64, Int.reduceMul, Int.reduceAdd,
      Int.reduceMod, listSet_lit, getI_lit, tu_getD_map, List.reduceReplicate, List.set_cons_zero, List.set_cons_succ,
      c0, c1, c2, c3, s0, s1, s2, s3, List.drop_succ_cons, List.drop_zero,
      List.getD_nil, tu_i8_zero, bne_self_eq_false, u0, u1, u2, u3, dataOf, errorsOf]
    have hl : (bytes.drop 16).length = bytes.length - 16 := List.length_drop
    rcases hlen with hlen | hlen
    · have e0 : e = 0 := by rw [hl, hlen] at bT; omega
      subst e0
      simp only [hlen, Int.cast_ofNat_Int, beq_self_eq_true, if_true]
      rfl
    · rw [hl, hlen] at bT sT
      have hend : List.drop 2 (List.drop 16 (bytes.map Int.ofNat)) = [] :=
        List.drop_eq_nil_of_le (by rw [List.length_drop, List.length_map, hlen]; decide)
      obtain ⟨q1, q2, q3, q4⟩ := tu_err_bits e bT
      simp only [hlen, Int.cast_ofNat_Int, Int.reduceBEq, Bool.false_eq_true, if_false, beq_self_eq_true, if_true, sT, hend,
        List.getD_nil, tu_i8_zero, bne_self_eq_false, q1, q2, q3, q4]

theorem tu_reject_nonhex (bytes : List Nat) (hb : ∀ b ∈ bytes, 1 ≤ b ∧ b < 256)
    (hbad : bytes.any (fun b => !(hexVal? b).isSome) = true) (d0 e0 : List Int) :
    c_rdsparser_utils_convert (bytes.map Int.ofNat) d0 e0 = (0, d0, e0) := by
  unfold c_rdsparser_utils_convert
  simp only [libc_strlen, List.length_map, Int.ofNat_eq_natCast, tu_xdigit_loop bytes hb, hbad, if_true]

theorem tu_reject_length (bytes : List Nat) (hb : ∀ b ∈ bytes, 1 ≤ b ∧ b < 256)
    (hgood : bytes.any (fun b => !(hexVal? b).isSome) = false) (hlen : ¬ (bytes.length = 16 ∨ bytes.length = 18))
    (d0 e0 : List Int) : (c_rdsparser_utils_convert (bytes.map Int.ofNat) d0 e0).1 = 0 := by
  have c16 : (((bytes.length : Nat) : Int) == 16) = false := by rw [beq_eq_false_iff_ne]; omega
  have c18 : (((bytes.length : Nat) : Int) == 18) = false := by rw [beq_eq_false_iff_ne]; omega
  unfold c_rdsparser_utils_convert
  simp only [libc_strlen, List.length_map, Int.ofNat_eq_natCast, tu_xdigit_loop bytes hb, hgood,
    Bool.false_eq_true, if_false]
  simp only [u64, Int.reduceMul, Int.reduceAdd, Int.reduceMod, c16, c18, Bool.false_eq_true, if_false]

/-- `bytes` is a C string (every byte 1..255), `d0`/`e0` the two 4-element output arrays: the C function returns `false`
exactly when the model rejects the string, else `true` with `data_out = dataOf g` and `errors_out = errorsOf g`. -/
theorem utils_convert_refines (bytes : List Nat) (hb : ∀ b ∈ bytes, 1 ≤ b ∧ b < 256) (d0 e0 : List Int)
    (hd : d0.length = 4) (he : e0.length = 4) :
    ((c_rdsparser_utils_convert (bytes.map Int.ofNat) d0 e0).1 = 0 ↔ utilsConvert bytes = none) ∧
    (∀ g, utilsConvert bytes = some g →
      c_rdsparser_utils_convert (bytes.map Int.ofNat) d0 e0 = (1, dataOf g, errorsOf g)) := by
  by_cases hbad : bytes.any (fun b => !(hexVal? b).isSome) = true
  · have hn : utilsConvert bytes = none := Option.not_isSome_iff_eq_none.1 fun hs => by
      obtain ⟨x, hx, hxb⟩ := List.any_eq_true.1 hbad
      rw [c14_hexVal_isSome, ((C14_accept_iff bytes).1 hs).2 x hx] at hxb
      cases hxb
    rw [tu_reject_nonhex bytes hb hbad, hn]
    exact ⟨⟨fun _ => rfl, fun _ => rfl⟩, fun g h => nomatch h⟩
  · have hgood : bytes.any (fun b => !(hexVal? b).isSome) = false := Bool.eq_false_iff.2 hbad
    by_cases hlen : bytes.length = 16 ∨ bytes.length = 18
    · obtain ⟨g, hg, hc⟩ := tu_accept bytes hb hgood hlen d0 e0 hd he
      rw [hc, hg]
      exact ⟨⟨fun h => absurd h (show ¬ (1 : Int) = 0 by decide), fun h => nomatch h⟩,
        fun g' h' => by rw [Option.some.inj h']⟩
    · have hn : utilsConvert bytes = none :=
        Option.not_isSome_iff_eq_none.1 fun hs => hlen ((C14_accept_iff bytes).1 hs).1
      rw [hn]
      exact ⟨⟨fun _ => rfl, fun _ => tu_reject_length bytes hb hgood hlen d0 e0⟩, fun g h => nomatch h⟩

end RDS.C

#print axioms RDS.C.utils_convert_refines
