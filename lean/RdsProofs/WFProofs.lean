import RdsProofs.WFBase
import RdsProofs.Sim
/-!
# RdsProofs.WFProofs — `WF` is an invariant of `step`; C16 for every call
-/
namespace RDS

variable {tb : Tabs} {s : State}

theorem wf_setPs (hw : WF tb s) {t : Text} (ht : TxtWF tb.cfg capPs t) : WF tb { s with ps := t } :=
  { hw with psLen := ht.1, psOk := ht.2 }

theorem wf_setPtyn (hw : WF tb s) {t : Text} (ht : TxtWF tb.cfg capPtyn t) : WF tb { s with ptyn := t } :=
  { hw with ptynLen := ht.1, ptynOk := ht.2 }

theorem wf_rt (hw : WF tb s) (flag : Nat) : TxtWF tb.cfg capRt (s.rt flag) := by
  unfold State.rt
  split
  · exact hw.rt0
  · exact hw.rt1

theorem wf_setRt (hw : WF tb s) (flag : Nat) {t : Text} (ht : TxtWF tb.cfg capRt t) :
    WF tb (s.setRt flag t) := by
  unfold State.setRt
  split
  · exact { hw with rt0Len := ht.1, rt0Ok := ht.2 }
  · exact { hw with rt1Len := ht.1, rt1Ok := ht.2 }

theorem wf_setLastRt (hw : WF tb s) {l : Int} (hl : LastOk l) : WF tb { s with lastRt := l } :=
  { hw with lastRt := hl }

theorem wf_of_noBuf {s' : State} (hw : WF tb s) (h : s'.noBuf = s.noBuf) (hu : AfWF s'.used.af)
    (ht : AfWF s'.temp.af) (hc : CountryOk tb s'.used.country) : WF tb s' := by
  rw [show s' = { s with used := s'.used, temp := s'.temp } from
    (congrArg (fun x : State => { x with used := s'.used, temp := s'.temp }) h :)]
  exact { hw with usedAfLen := hu.1, usedAfValid := hu.2, tempAfLen := ht.1, tempAfValid := ht.2, country := hc }

theorem wf_setField (hw : WF tb s) (f : Fld) (v : Int) (hv : f = .country → CountryOk tb v) :
    WF tb (setField s f v).1 := by
  refine wf_of_noBuf hw rfl ?_ ?_ ?_
  · rw [setField_used_af]; exact hw.usedAf
  · rw [setField_temp_af]; exact hw.tempAf
  · show CountryOk tb ((setField s f v).1.used.get .country)
    by_cases e : f = .country
    · subst e
      rw [setField_used_get]
      rcases bufUpdate_fst s.set.ext (s.used.get .country) (s.temp.get .country) v with h | h <;> rw [h]
      · exact hw.country
      · exact hv rfl
    · rw [setField_used_get_ne _ _ _ _ (Ne.symm e)]; exact hw.country

theorem wf_addAf (hw : WF tb s) (v : Nat) : WF tb (addAf s v).1 :=
  wf_of_noBuf hw (addAf_noBuf s v) (addAf_used_af_wf v hw.usedAf)
    (addAf_temp_af_wf v hw.tempAf) (by rw [addAf_used_country]; exact hw.country)

theorem wf_g2s2 (hw : WF tb s) (g : Group) : WF tb (g2s2 s g) := by
  have h1 : ∀ clr : Bool, WF tb (if clr then s.setRt (g.b / 16 % 2) (s.rt (g.b / 16 % 2)).cleared else s) :=
    fun clr => by
      split
      · exact wf_setRt hw _ (txtWF_cleared (wf_rt hw _))
      · exact hw
  unfold g2s2 g2step
  extract_lets s1
  split
  · exact wf_setLastRt (h1 _) (by unfold LastOk; omega)
  · exact h1 _

theorem wf_group2 (hw : WF tb s) (g : Group) : WF tb (group2 tb.cfg s g).1 := by
  have h2 := wf_g2s2 hw g
  rw [group2_eq]
  split
  · exact h2
  · refine wf_setRt h2 _ (parserUpdate_wf ?_ h2.setOk ..)
    split
    · exact parserUpdate_wf (wf_rt h2 _) h2.setOk ..
    · exact wf_rt h2 _

theorem wf_group10 (hw : WF tb s) (g : Group) : WF tb (group10 tb.cfg s g).1 := by
  rw [group10_eq]
  split
  · exact wf_setPtyn hw (parserUpdate_wf (parserUpdate_wf hw.ptyn hw.setOk ..) hw.setOk ..)
  · exact hw

/-- of the pieces, only the country lookup needs the table bound `EccOk` -/
theorem wf_leaves (h : EccOk tb) (g : Group) :
    Leaves (fun s _ => WF tb s) (fun _ _ => True) (pieces tb.cfg g) (pieces tb.cfg g) g where
  ev := .true
  sf := fun f v ho _ _ hw => ⟨wf_setField hw f v (fun e => absurd e ho.ne_country), trivial⟩
  af := fun v _ _ _ hw => ⟨wf_addAf hw v, trivial⟩
  cty := fun _ _ _ _ hw => ⟨wf_setField hw _ _ (fun _ => eccLookup_ok h _ _), trivial⟩
  ps := fun _ _ _ hw => ⟨wf_setPs hw (parserUpdate_wf hw.ps hw.setOk ..), trivial⟩
  g2 := fun _ _ _ hw => ⟨wf_group2 hw g, trivial⟩
  g4 := fun _ s _ hw => ⟨(group4_fst s g).symm ▸ hw, trivial⟩
  g10 := fun _ _ _ hw => ⟨wf_group10 hw g, trivial⟩

theorem wf_process (h : EccOk tb) (hw : WF tb s) (g : Group) : WF tb (process tb.cfg s g).1 :=
  ((wf_leaves h g).sim s s hw).1

theorem countryOk_zero (h : EccOk tb) : CountryOk tb 0 := by
  obtain ⟨h0, _⟩ := h
  unfold CountryOk
  omega

theorem Settings.init_ok : Settings.init.Ok := by simp [Settings.Ok, Settings.init]

theorem wf_init (tb : Tabs) (h : EccOk tb) : WF tb initState :=
  (wf_iff ..).mpr ⟨⟨txtWF_replicate _ _, txtWF_replicate _ _, txtWF_replicate _ _, txtWF_replicate _ _⟩,
    ⟨rfl, rfl, rfl, rfl⟩, Settings.init_ok, Or.inl rfl, afWF_replicate, afWF_replicate, List.length_replicate,
    countryOk_zero h⟩

theorem wf_clear (h : EccOk tb) (hw : WF tb s) : WF tb (clearState s) := by
  rw [wf_iff] at hw ⊢
  obtain ⟨⟨a, b, c, d⟩, h2, h3, _, _, _, h7, _⟩ := hw
  exact ⟨⟨txtWF_cleared a, txtWF_cleared b, txtWF_cleared c, txtWF_cleared d⟩, h2, h3,
    Or.inl rfl, afWF_replicate, afWF_replicate, h7, countryOk_zero h⟩

theorem Settings.Ok.setCorr {set : Settings} (hs : set.Ok) (t : TextId) (k : BlockType) (v : Nat) :
    (set.setCorr t k v).Ok :=
  (Settings.ok_iff _).2 fun id k' => by
    rw [Settings.setCorr_corr]
    split
    · exact Nat.min_le_right v 2
    · exact hs.corr_le id k'

theorem Settings.Ok.setProg {set : Settings} (hs : set.Ok) (t : TextId) (v : Bool) :
    (set.setProg t v).Ok := by
  cases t <;> exact hs

theorem Settings.Ok.onSet {set : Settings} (hs : set.Ok) (op : Op) : (op.onSet set).Ok := by
  cases op with
  | setCorr t k v => exact hs.setCorr t k v
  | setProg t v => exact hs.setProg t v
  | _ => exact hs

theorem wf_step (tb : Tabs) (h : EccOk tb) (s : State) (op : Op) (hw : WF tb s) :
    WF tb (step tb.cfg s op).1 := by
  rcases op.kind_cases with rfl | rfl | ⟨g, hg⟩ | ⟨hg, h1, h2⟩
  · exact wf_init tb h
  · exact wf_clear h hw
  · rw [step_group _ _ hg]; exact wf_process h hw g
  · rw [step_quiet _ _ hg h1 h2]
    exact { hw with setOk := hw.setOk.onSet op, cbsLen := (op.onCbs_length _).trans hw.cbsLen }

/-- the settings are clamped after every history, whatever the tables (`wf_run` needs `EccOk`) -/
theorem setOk_run (cfg : Cfg) (ops : List Op) : (run cfg ops).set.Ok := by
  refine runFrom_induct cfg (Q := fun _ => True) (fun s op _ (h : s.set.Ok) => ?_) ops _ (fun _ _ => trivial)
    Settings.init_ok
  rcases op.kind_cases with rfl | rfl | ⟨g, hg⟩ | ⟨hg, h1, h2⟩
  · exact Settings.init_ok
  · exact h
  · rw [step_group _ _ hg, process_set]; exact h
  · rw [step_quiet _ _ hg h1 h2]; exact h.onSet op

theorem printable_of_conv (cfg : Cfg) {b : Nat} (h1 : 0x20 ≤ b) (h2 : b < 256) :
    printable cfg (conv cfg b) = true := by
  unfold printable
  rw [List.any_eq_true]
  exact ⟨b, List.mem_range.2 h2, by simp [h1]⟩

theorem wfTextObs_ofText {cfg : Cfg} {cap : Nat} {t : Text} (h : TxtWF cfg cap t) :
    wfTextObs cfg (TextObs.ofText t 0) cap = true := by
  simp only [wfTextObs, TextObs.ofText, Bool.and_eq_true, beq_iff_eq, List.all_eq_true,
    decide_eq_true_eq, Bool.or_eq_true, bne_iff_ne, ne_eq]
  refine ⟨⟨⟨⟨h.1, trivial⟩, ?_⟩, trivial⟩, trivial⟩
  intro c hc
  obtain ⟨c1, c2, c3⟩ := h.2 c hc
  refine ⟨⟨c1, ?_⟩, ?_⟩
  · by_cases e : c.lvl = 10
    · right; exact c2 e
    · left; exact e
  · rcases c3 with e | e | ⟨b, hb1, hb2, e⟩
    · left; left; exact e
    · left; right; exact e
    · right; rw [← e]; exact printable_of_conv cfg hb1 hb2

theorem cleared_all_never (t : Text) : (Text.cleared t).all (fun c => c.lvl == 10) = true := by
  simp [Text.cleared, blank]

theorem replicate_blank_all_never (n : Nat) : (List.replicate n blank).all (fun c => c.lvl == 10) = true := by
  simp [blank]

theorem wfp_reset_blank (cfg : Cfg) (s : State) (op : Op) (h : op.isReset = true) :
    (neverReceived (Obs.ofState (step cfg s op).1).ps && neverReceived (Obs.ofState (step cfg s op).1).rt0 &&
      neverReceived (Obs.ofState (step cfg s op).1).rt1 && neverReceived (Obs.ofState (step cfg s op).1).ptyn) = true := by
  cases op with
  | init => simp only [step, initState, Obs.ofState, neverReceived, TextObs.ofText, replicate_blank_all_never, Bool.and_self]
  | clear => simp only [step, clearState, Obs.ofState, neverReceived, TextObs.ofText, cleared_all_never, Bool.and_self]
  | _ => cases h

/-- C16 for one call: the four texts the getters show after any call are well-formed, and right after `init` / `clear`
no cell of them counts as received -/
theorem chkC16_ok (tb : Tabs) (s : State) (op : Op) (hw' : WF tb (step tb.cfg s op).1) :
    chkC16 tb.cfg (recOf tb.cfg s op) = true := by
  unfold chkC16
  rw [Bool.and_eq_true]
  constructor
  · simp only [recOf, Obs.ofState, Bool.and_eq_true]
    rw [hw'.termPs, hw'.termRt0, hw'.termRt1, hw'.termPtyn]
    exact ⟨⟨⟨wfTextObs_ofText hw'.ps, wfTextObs_ofText hw'.rt0⟩,
      wfTextObs_ofText hw'.rt1⟩, wfTextObs_ofText hw'.ptyn⟩
  · show (!op.isReset || _) = true
    cases hr : op.isReset
    · rfl
    · exact wfp_reset_blank tb.cfg s op hr

theorem wf_runFrom (tb : Tabs) (h : EccOk tb) (ops : List Op) (s : State) (hs : WF tb s) :
    WF tb (runFrom tb.cfg s ops) :=
  runFrom_induct tb.cfg (Q := fun _ => True) (fun s op _ => wf_step tb h s op) ops s (fun _ _ => trivial) hs

theorem wf_run (tb : Tabs) (h : EccOk tb) (ops : List Op) : WF tb (run tb.cfg ops) :=
  wf_runFrom tb h ops initState (wf_init tb h)

end RDS

#print axioms RDS.wf_init
#print axioms RDS.wf_step
#print axioms RDS.chkC16_ok
#print axioms RDS.wf_run
