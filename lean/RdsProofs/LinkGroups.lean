import RdsProofs.LinkBase
import RdsProofs.Sim
/-!
# RdsProofs.LinkGroups — `Link` through `process`: monitor and model in step, piece by piece
-/
namespace RDS

/-- `lastRt` may move together with the monitor's `lastFlag` -/
theorem linkL_lastFlag {m : Mon} {s s' : State} (x : Int) (h : LinkL m s)
    (e : s'.noTxt.noLast = s.noTxt.noLast) (hlast : s'.lastRt = x) :
    LinkL { m with lastFlag := x } s' :=
  have h1 : LinkL { m with lastFlag := x } { s with lastRt := x } :=
    ⟨{ h.link with lastFlag := rfl }, h.usedLen, h.tempLen⟩
  h1.congr (show ({ s'.noTxt.noLast with lastRt := s'.lastRt } : State) = _ by rw [e, hlast])

theorem linkL_group2 (cfg : Cfg) (m : Mon) (s : State) (g : Group) (h : LinkL m s) :
    LinkL ((monPieces cfg g).g2 m).1 (group2 cfg s g).1 := by
  have e6 := group2_lastRt cfg s g
  show LinkL (if g.eb = 0 then _ else m) _
  by_cases hb : g.eb = 0
  · rw [if_pos hb] at e6 ⊢
    exact linkL_lastFlag _ h (group2_noTxtLast cfg s g) e6
  · rw [if_neg hb] at e6 ⊢
    exact linkL_lastFlag _ h (group2_noTxtLast cfg s g) (e6.trans h.link.lastFlag.symm)

/-- The country piece looks its value up with the PI each side shows; the two agree when the monitor is `clean`,
which is all `linkL_setField` asks. -/
theorem linkL_leaves (cfg : Cfg) (g : Group) :
    Leaves LinkL (fun _ _ => True) (monPieces cfg g) (pieces cfg g) g where
  ev := .true
  sf := fun f v _ m s h => ⟨linkL_setField m s f v v h (fun _ => rfl), trivial⟩
  af := fun v _ m s h => ⟨linkL_addAf m s v h, trivial⟩
  cty := fun _ _ m s h => ⟨linkL_setField m s .country _ _ h
    (fun hc => congrArg (eccLookup cfg · _) (h.link.fields hc .pi).1.symm), trivial⟩
  ps := fun _ _ _ h => ⟨h.congr rfl, trivial⟩
  g2 := fun _ m s h => ⟨linkL_group2 cfg m s g h, trivial⟩
  g4 := fun _ _ s h => ⟨(group4_fst s g).symm ▸ h, trivial⟩
  g10 := fun _ _ s h => ⟨h.congr (group10_noTxt cfg s g), trivial⟩

theorem linkL_process (cfg : Cfg) (m : Mon) (s : State) (g : Group) (h : LinkL m s) :
    LinkL (m.group cfg g) (process cfg s g).1 := by
  rw [Mon.group_eq, process_eq_pieces]
  exact ((linkL_leaves cfg g).process m s h).1

end RDS
