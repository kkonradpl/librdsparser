import RdsProofs.C20Ascii
import RdsProofs.C20Mask
import RdsProofs.Toy
import RdsProofs.CellsAddressed
/-!
# C20: the two charset configurations decode identically modulo the character type

Both parts are instances of the generic two-run simulation of `RdsProofs.C20Base`:
(A) `RdsProofs.C20Ascii` — texts related by the charset embedding, for histories that never present an error-free
byte ≥ 0x7F to a text cell; (B) `RdsProofs.C20Mask` — texts related by their received-mask, for all histories.

`Group.asciiOnly` forbids every addressed byte ≥ 0x7F. `ac3_asciiOnly'` allows them when they arrive with an error in block
B or in their data block (both builds reject them before any conversion): `C20_ascii'`, `C20_ascii_step'`; `C20_ascii`,
`C20_ascii_step` are the special case. `ac3_C20_sharp` — an error-free byte ≥ 0x7F does break the lock step.
-/
namespace RDS

theorem c20_run_B (cfgn cfgw : Cfg) (hecc : cfgn.ecc = cfgw.ecc) (ops : List Op) :
    c20_R c20_TB Settings.Ok (run cfgn ops) (run cfgw ops) :=
  c20_run (c20_ax_B cfgn cfgw hecc) ops (fun _ _ g _ => c20_gw_true g)

/-- every addressed byte is < 0x7F, or arrives with an error in block B or in its own data block -/
def ac3_asciiOnly' (g : Group) : Bool :=
  (addressed g).all (fun a => a.2.2.1 < 0x7F || g.eb != 0 || a.2.2.2 != 0)

def ac3_opAsciiOnly' (op : Op) : Bool :=
  match op.group? with
  | some g => ac3_asciiOnly' g
  | none => true

theorem ac3_asciiOnly_imp (g : Group) (h : g.asciiOnly = true) : ac3_asciiOnly' g = true := by
  unfold Group.asciiOnly at h
  unfold ac3_asciiOnly'
  rw [List.all_eq_true] at h ⊢
  intro a ha
  have := h a ha
  simp only [Bool.or_eq_true, decide_eq_true_eq] at this ⊢
  exact Or.inl (Or.inl this)

theorem ac3_opAsciiOnly_imp (op : Op) (h : op.asciiOnly = true) : ac3_opAsciiOnly' op = true := by
  unfold Op.asciiOnly at h
  unfold ac3_opAsciiOnly'
  cases hg : op.group? with
  | none => rfl
  | some g => rw [hg] at h; exact ac3_asciiOnly_imp g h

/-! A byte ≥ 0x7F in an errored lane is rejected like an errored 0x0D, so it may be replaced by one. -/

def ac3_fixByte (b : Nat) : Nat := if 0x7F ≤ b then 0x0D else b

def ac3_fixWord (w : Nat) : Nat := ac3_fixByte (w / 256 % 256) * 256 + ac3_fixByte (w % 256)

theorem ac3_fixByte_lt (b : Nat) : ac3_fixByte b < 0x7F := by
  unfold ac3_fixByte; split <;> omega

theorem ac3_fixWord_bytes (w : Nat) :
    ac3_fixWord w / 256 % 256 = ac3_fixByte (w / 256 % 256) ∧ ac3_fixWord w % 256 = ac3_fixByte (w % 256) := by
  have h1 := ac3_fixByte_lt (w / 256 % 256)
  have h2 := ac3_fixByte_lt (w % 256)
  unfold ac3_fixWord
  omega

theorem ac3_updateSingle_fix (cfg : Cfg) (t : Text) (b ei ed pos : Nat) (prog : Bool) (he : ¬ (ei = 0 ∧ ed = 0)) :
    updateSingle cfg t b ei ed pos prog = updateSingle cfg t (ac3_fixByte b) ei ed pos prog := by
  unfold ac3_fixByte
  split
  · rename_i hb
    simp only [updateSingle_eq, storeOk_errored (Or.inr hb) he, storeOk_errored (Or.inl rfl) he, Bool.false_eq_true,
      if_false]
  · rfl

theorem ac3_parserUpdate_fix (cfg : Cfg) (set : Settings) (t : Text) (id : TextId) (w eb ex pos : Nat)
    (he : ¬ (eb = 0 ∧ ex = 0)) :
    parserUpdate cfg set t id w eb ex pos = parserUpdate cfg set t id (ac3_fixWord w) eb ex pos := by
  simp only [parserUpdate, updateString, ac3_fixWord_bytes, ← ac3_updateSingle_fix cfg _ _ eb ex _ _ he]

theorem ac3_WE (t p w eb ex : Nat)
    (h : (blockCells t p w ex).all (fun a => decide (a.2.2.1 < 0x7F) || eb != 0 || a.2.2.2 != 0) = true) :
    c20_WE c20_WA w eb ex := by
  simp only [blockCells, List.all_cons, List.all_nil, Bool.and_true, Bool.and_eq_true, Bool.or_eq_true,
    decide_eq_true_eq, bne_iff_ne, ne_eq, or_assoc] at h
  obtain ⟨h1, h2⟩ := h
  by_cases he : eb = 0 ∧ ex = 0
  · have hn : ¬ (¬ eb = 0 ∨ ¬ ex = 0) := fun h => h.elim (· he.1) (· he.2)
    exact .of ⟨h1.resolve_right hn, h2.resolve_right hn⟩ eb ex
  · refine ⟨ac3_fixWord w, ?_, fun cfg set t id pos => ac3_parserUpdate_fix cfg set t id w eb ex pos he⟩
    unfold c20_WA
    rw [(ac3_fixWord_bytes w).1, (ac3_fixWord_bytes w).2]
    exact ⟨ac3_fixByte_lt _, ac3_fixByte_lt _⟩

theorem ac3_gw_of_asciiOnly' (g : Group) (h : ac3_asciiOnly' g = true) : c20_GW c20_WA g := by
  unfold ac3_asciiOnly' at h
  refine ⟨fun h0 => ?_, fun h2 => ?_, fun h10 hvb => ?_⟩
  · rw [addressed_type0 g h0] at h
    exact ac3_WE _ _ _ _ _ h
  · cases hvb : g.versionB
    · rw [addressed_type2A g h2 hvb, List.all_append, Bool.and_eq_true] at h
      exact ⟨fun _ => ac3_WE _ _ _ _ _ h.1, ac3_WE _ _ _ _ _ h.2⟩
    · rw [addressed_type2B g h2 hvb] at h
      exact ⟨(fun e => nomatch e), ac3_WE _ _ _ _ _ h⟩
  · rw [addressed_type10A g h10 hvb, List.all_append, Bool.and_eq_true] at h
    exact ⟨ac3_WE _ _ _ _ _ h.1, ac3_WE _ _ _ _ _ h.2⟩

theorem ac3_gw_of_op (op : Op) (h : ac3_opAsciiOnly' op = true) : ∀ g, op.group? = some g → c20_GW c20_WA g := by
  intro g hg
  unfold ac3_opAsciiOnly' at h
  rw [hg] at h
  exact ac3_gw_of_asciiOnly' g h

theorem ac3_run_A' (cfg : Cfg) (h : G0Ascii cfg) (ops : List Op) (ha : ∀ op ∈ ops, ac3_opAsciiOnly' op = true) :
    c20_R (c20_TA cfg) (fun _ => True) (run cfg.narrow ops) (run cfg.wide ops) :=
  c20_run (c20_ax_A cfg h) ops (fun op hm => ac3_gw_of_op op (ha op hm))

/-- **C20 (A).** On histories in which every addressed byte ≥ 0x7F arrives with an error in block B or
in its own data block, the two builds are in lock step modulo the character embedding. -/
theorem C20_ascii' (cfg : Cfg) (h : G0Ascii cfg) (ops : List Op)
    (ha : ∀ op ∈ ops, ac3_opAsciiOnly' op = true) :
    embedState cfg (run cfg.narrow ops) = run cfg.wide ops :=
  (c20_RA_eq (ac3_run_A' cfg h ops ha)).symm

/-- After such a history every further such call returns the same result and fires the same callbacks, each seeing
embedded state. -/
theorem C20_ascii_step' (cfg : Cfg) (h : G0Ascii cfg) (ops : List Op)
    (ha : ∀ op ∈ ops, ac3_opAsciiOnly' op = true) (op : Op) (hop : ac3_opAsciiOnly' op = true) :
    (step cfg.narrow (run cfg.narrow ops) op).2.2 = (step cfg.wide (run cfg.wide ops) op).2.2 ∧
    (step cfg.narrow (run cfg.narrow ops) op).2.1.map (fun e => (e.kind, e.ud, embedState cfg e.snap)) =
    (step cfg.wide (run cfg.wide ops) op).2.1.map (fun e => (e.kind, e.ud, e.snap)) :=
  (c20_sim_step (c20_ax_A cfg h) _ _ (ac3_run_A' cfg h ops ha) op (ac3_gw_of_op op hop)).2

/-- (A) On histories that never present a byte ≥ 0x7F to a text cell, the wide build's state is the embedding of the
narrow build's: same scalars, settings, flags, levels, and the wide build's characters are the table images of the narrow
build's raw bytes. What a call returns and which callbacks it fires: `C20_ascii_step`. -/
theorem C20_ascii (cfg : Cfg) (h : G0Ascii cfg) (ops : List Op) (ha : ∀ op ∈ ops, op.asciiOnly = true) :
    embedState cfg (run cfg.narrow ops) = run cfg.wide ops :=
  C20_ascii' cfg h ops (fun op hm => ac3_opAsciiOnly_imp op (ha op hm))

theorem C20_ascii_step (cfg : Cfg) (h : G0Ascii cfg) (ops : List Op) (ha : ∀ op ∈ ops, op.asciiOnly = true)
    (op : Op) (hop : op.asciiOnly = true) :
    (step cfg.narrow (run cfg.narrow ops) op).2.2 = (step cfg.wide (run cfg.wide ops) op).2.2 ∧
    (step cfg.narrow (run cfg.narrow ops) op).2.1.map (fun e => (e.kind, e.ud, embedState cfg e.snap)) =
    (step cfg.wide (run cfg.wide ops) op).2.1.map (fun e => (e.kind, e.ud, e.snap)) :=
  C20_ascii_step' cfg h ops (fun op hm => ac3_opAsciiOnly_imp op (ha op hm)) op (ac3_opAsciiOnly_imp op hop)

#print axioms C20_ascii
#print axioms C20_ascii_step

theorem ac3_C20_ascii_of' (cfg : Cfg) (h : G0Ascii cfg) (ops : List Op) (ha : ∀ op ∈ ops, op.asciiOnly = true) :
    embedState cfg (run cfg.narrow ops) = run cfg.wide ops :=
  C20_ascii cfg h ops ha

/-- non-vacuity of `C20_ascii'` / `C20_ascii_step'`: a history that presents bytes ≥ 0x7F (in PS with an errored
block D, in RT with an errored block B, through `parseString` too) — rejected by `asciiOnly`, accepted by
`ac3_opAsciiOnly'` — together with ordinary accepted text -/
def ac3_c20Ops : List Op :=
  [.register .ps true, .setCorr .ps .data 2, .setCorr .rt .info 2,
   .parse ⟨0x1234, 0x0000, 0, 0x4142, 0, 0, 0, 0⟩,
   .parse ⟨0x1234, 0x0001, 0, 0x80E9, 0, 0, 0, 1⟩,
   .parse ⟨0x1234, 0x2000, 0xFF41, 0x4281, 0, 1, 0, 0⟩,
   .parseString (some [49,50,51,52, 48,48,48,50, 48,48,48,48, 56,48,52,49, 48,49])]

example : (∀ op ∈ ac3_c20Ops, ac3_opAsciiOnly' op = true) ∧ ¬ (∀ op ∈ ac3_c20Ops, op.asciiOnly = true) := by
  decide

theorem ac3_g0Ascii_cfg0 : G0Ascii ac3_cfg0 :=
  ⟨rfl, fun b h1 _ => by show b ≠ 0; omega, fun _ _ _ _ _ _ e => e⟩

example : embedState ac3_cfg0 (run ac3_cfg0.narrow ac3_c20Ops) = run ac3_cfg0.wide ac3_c20Ops :=
  C20_ascii' ac3_cfg0 ac3_g0Ascii_cfg0 ac3_c20Ops (by decide)

/-- sharpness: the error condition cannot be dropped. One error-free 0A group carrying byte 0x80 (the only addressed
byte violating `ac3_asciiOnly'`) already breaks the lock step: the narrow build stores a space, the wide build the
table image of 0x80. -/
theorem ac3_C20_sharp :
    let ops : List Op := [.parse ⟨0x1234, 0x0000, 0, 0x8041, 0, 0, 0, 0⟩]
    G0Ascii ac3_cfg0 ∧ ¬ (∀ op ∈ ops, ac3_opAsciiOnly' op = true) ∧
    (embedState ac3_cfg0 (run ac3_cfg0.narrow ops)).ps ≠ (run ac3_cfg0.wide ops).ps :=
  ⟨ac3_g0Ascii_cfg0, by decide, by decide⟩

-- `EccOk` is not needed: the proof does not go through `WF`
set_option linter.unusedVariables false in
/-- (B) For ALL histories the two builds agree on the buffered scalars (both stages, AF lists included), settings, last
RT flag, observers, and on which cells have been received (hence availability and the RT A/B switch behaviour); the
characters, levels and terminators of the texts are not compared. What a call returns and the kinds of the non-text
callbacks it fires, in order: `C20_nontext_step`. -/
theorem C20_nontext (tb : Tabs) (hE : EccOk tb) (ops : List Op) :
    nonText (run tb.cfg.narrow ops) = nonText (run tb.cfg.wide ops) :=
  c20_nonText_of_R (c20_run_B tb.cfg.narrow tb.cfg.wide rfl ops)

set_option linter.unusedVariables false in
theorem C20_nontext_step (tb : Tabs) (hE : EccOk tb) (ops : List Op) (op : Op) :
    (step tb.cfg.narrow (run tb.cfg.narrow ops) op).2.2 = (step tb.cfg.wide (run tb.cfg.wide ops) op).2.2 ∧
    nonTextKinds (step tb.cfg.narrow (run tb.cfg.narrow ops) op).2.1 = nonTextKinds (step tb.cfg.wide (run tb.cfg.wide ops) op).2.1 :=
  (c20_sim_step (c20_ax_B tb.cfg.narrow tb.cfg.wide rfl) _ _ (c20_run_B tb.cfg.narrow tb.cfg.wide rfl ops) op
    (fun g _ => c20_gw_true g)).2

#print axioms C20_nontext
#print axioms C20_nontext_step

end RDS
