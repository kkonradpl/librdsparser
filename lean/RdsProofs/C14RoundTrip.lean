import RdsProofs.C14Proofs
/-!
# RdsProofs.C14RoundTrip — the string entry point reaches every group (encode / decode law)

For every group within the C API's ranges whose four error levels are below 4 there is an 18-character string — and, when
all four levels are 0, also a 16-character string — in either digit case, digit by digit, that `utilsConvert` decodes to
exactly that group. This is what `tools/gen.py: vary` relies on when it sends a group through `rdsparser_parse_string`
instead of `rdsparser_parse`: by `C14_equiv` the two calls then have the same effect.
-/
namespace RDS

/-- the ASCII code of hexadecimal digit `v` (< 16), upper or lower case -/
def hexDigit (upper : Bool) (v : Nat) : Nat := if v < 10 then 48 + v else (if upper then 55 else 87) + v

theorem hexVal_hexDigit {up : Bool} {v : Nat} (h : v < 16) : hexVal? (hexDigit up v) = some v := by
  revert v
  cases up <;> decide

/-- the four digits of a 16-bit block, most significant first; `u i` is the case of digit `i` -/
def hex4 (u : Nat → Bool) (off w : Nat) : List Nat :=
  [hexDigit (u off) (w / 4096 % 16), hexDigit (u (off + 1)) (w / 256 % 16), hexDigit (u (off + 2)) (w / 16 % 16),
   hexDigit (u (off + 3)) (w % 16)]

theorem hexNum_hex4 (u : Nat → Bool) (off w : Nat) (h : w < 65536) : hexNum? (hex4 u off w) = some w := by
  unfold hex4
  rw [hexNum4 _ _ _ _ (w / 4096 % 16) (w / 256 % 16) (w / 16 % 16) (w % 16)
    (hexVal_hexDigit (Nat.mod_lt _ (by decide))) (hexVal_hexDigit (Nat.mod_lt _ (by decide)))
    (hexVal_hexDigit (Nat.mod_lt _ (by decide))) (hexVal_hexDigit (Nat.mod_lt _ (by decide)))]
  congr 1; omega

theorem hexNum2 {c0 c1 v0 v1 : Nat} (h0 : hexVal? c0 = some v0) (h1 : hexVal? c1 = some v1) :
    hexNum? [c0, c1] = some (16 * v0 + v1) := by
  rw [c14_hexNum_eq_foldl]
  simp only [List.foldl_cons, List.foldl_nil]
  rw [c14_hexStep_some 0 c0 v0 h0, c14_hexStep_some _ c1 v1 h1]
  congr 1; omega

def errByte (g : Group) : Nat := g.ea * 64 + g.eb * 16 + g.ec * 4 + g.ed

def encode18 (u : Nat → Bool) (g : Group) : List Nat :=
  hex4 u 0 g.a ++ hex4 u 4 g.b ++ hex4 u 8 g.c ++ hex4 u 12 g.d ++
    [hexDigit (u 16) (errByte g / 16 % 16), hexDigit (u 17) (errByte g % 16)]

def encode16 (u : Nat → Bool) (g : Group) : List Nat :=
  hex4 u 0 g.a ++ hex4 u 4 g.b ++ hex4 u 8 g.c ++ hex4 u 12 g.d

theorem errByte_fields (g : Group) (h1 : g.ea < 4) (h2 : g.eb < 4) (h3 : g.ec < 4) (h4 : g.ed < 4) :
    errByte g / 64 % 4 = g.ea ∧ errByte g / 16 % 4 = g.eb ∧ errByte g / 4 % 4 = g.ec ∧ errByte g % 4 = g.ed := by
  unfold errByte; omega

theorem C14_roundtrip18 (u : Nat → Bool) (g : Group) (ha : g.a < 65536) (hb : g.b < 65536) (hc : g.c < 65536)
    (hd : g.d < 65536) (h1 : g.ea < 4) (h2 : g.eb < 4) (h3 : g.ec < 4) (h4 : g.ed < 4) :
    utilsConvert (encode18 u g) = some g := by
  have he : errByte g < 256 := by unfold errByte; omega
  have e2 : hexNum? [hexDigit (u 16) (errByte g / 16 % 16), hexDigit (u 17) (errByte g % 16)] = some (errByte g) := by
    rw [hexNum2 (hexVal_hexDigit (Nat.mod_lt _ (by decide))) (hexVal_hexDigit (Nat.mod_lt _ (by decide)))]
    congr 1; omega
  obtain ⟨q1, q2, q3, q4⟩ := errByte_fields g h1 h2 h3 h4
  unfold encode18
  simp only [List.append_assoc]
  rw [utilsConvert_append rfl rfl rfl rfl (.inr rfl) (hexNum_hex4 u 0 _ ha) (hexNum_hex4 u 4 _ hb)
    (hexNum_hex4 u 8 _ hc) (hexNum_hex4 u 12 _ hd) e2, q1, q2, q3, q4]

theorem C14_roundtrip16 (u : Nat → Bool) (g : Group) (ha : g.a < 65536) (hb : g.b < 65536) (hc : g.c < 65536)
    (hd : g.d < 65536) (h1 : g.ea = 0) (h2 : g.eb = 0) (h3 : g.ec = 0) (h4 : g.ed = 0) :
    utilsConvert (encode16 u g) = some g := by
  unfold encode16
  rw [← List.append_nil (hex4 u 12 g.d)]
  simp only [List.append_assoc]
  rw [utilsConvert_append (e := 0) rfl rfl rfl rfl (.inl rfl) (hexNum_hex4 u 0 _ ha) (hexNum_hex4 u 4 _ hb)
    (hexNum_hex4 u 8 _ hc) (hexNum_hex4 u 12 _ hd) rfl]
  cases g
  simp only [] at h1 h2 h3 h4
  subst h1 h2 h3 h4
  rfl
/-- the two entry points agree on every group the string form can carry: delivering `encode18 u g` through
`rdsparser_parse_string` is delivering `g` through `rdsparser_parse` -/
theorem C14_string_reaches (cfg : Cfg) (s : State) (u : Nat → Bool) (g : Group) (ha : g.a < 65536) (hb : g.b < 65536)
    (hc : g.c < 65536) (hd : g.d < 65536) (h1 : g.ea < 4) (h2 : g.eb < 4) (h3 : g.ec < 4) (h4 : g.ed < 4) :
    step cfg s (.parseString (some (encode18 u g))) = step cfg s (.parse g) :=
  C14_equiv cfg s _ g (C14_roundtrip18 u g ha hb hc hd h1 h2 h3 h4)

/-- a concrete instance: the string is "12340408e0cd444903" (the letters fall on positions where `u` is false) -/
example : utilsConvert (encode18 (fun i => i % 3 == 0) ⟨0x1234, 0x0408, 0xE0CD, 0x4449, 0, 0, 0, 3⟩) =
    some ⟨0x1234, 0x0408, 0xE0CD, 0x4449, 0, 0, 0, 3⟩ := by decide

end RDS

#print axioms RDS.C14_roundtrip18
#print axioms RDS.C14_roundtrip16
#print axioms RDS.C14_string_reaches
