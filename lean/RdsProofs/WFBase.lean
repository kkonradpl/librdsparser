import RdsProofs.CellsSingle
import RdsProofs.Inv
/-!
# RdsProofs.WFBase — component view of `WF` and the per-component preservation lemmas
-/
namespace RDS

def TxtWF (cfg : Cfg) (cap : Nat) (t : Text) : Prop := t.length = cap ∧ TextOk cfg t

def AfWF (af : List Bool) : Prop :=
  af.length = afBits ∧ ∀ v, af.getD v false = true → afValid v = true

def LastOk (l : Int) : Prop := l = -1 ∨ l = 0 ∨ l = 1

def CountryOk (tb : Tabs) (c : Int) : Prop := 0 ≤ c ∧ c < tb.countryCount

section
variable {tb : Tabs} {s : State} (h : WF tb s)
include h
theorem WF.ps : TxtWF tb.cfg capPs s.ps := ⟨h.psLen, h.psOk⟩
theorem WF.rt0 : TxtWF tb.cfg capRt s.rt0 := ⟨h.rt0Len, h.rt0Ok⟩
theorem WF.rt1 : TxtWF tb.cfg capRt s.rt1 := ⟨h.rt1Len, h.rt1Ok⟩
theorem WF.ptyn : TxtWF tb.cfg capPtyn s.ptyn := ⟨h.ptynLen, h.ptynOk⟩
theorem WF.usedAf : AfWF s.used.af := ⟨h.usedAfLen, h.usedAfValid⟩
theorem WF.tempAf : AfWF s.temp.af := ⟨h.tempAfLen, h.tempAfValid⟩
end

theorem wf_iff (tb : Tabs) (s : State) :
    WF tb s ↔
      (TxtWF tb.cfg capPs s.ps ∧ TxtWF tb.cfg capRt s.rt0 ∧ TxtWF tb.cfg capRt s.rt1 ∧
        TxtWF tb.cfg capPtyn s.ptyn) ∧
      (s.termPs = 0 ∧ s.termRt0 = 0 ∧ s.termRt1 = 0 ∧ s.termPtyn = 0) ∧
      s.set.Ok ∧ LastOk s.lastRt ∧ AfWF s.used.af ∧ AfWF s.temp.af ∧ s.cbs.length = 12 ∧
      CountryOk tb s.used.country := by
  constructor
  · intro h
    exact ⟨⟨h.ps, h.rt0, h.rt1, h.ptyn⟩, ⟨h.termPs, h.termRt0, h.termRt1, h.termPtyn⟩, h.setOk, h.lastRt,
      h.usedAf, h.tempAf, h.cbsLen, h.country⟩
  · rintro ⟨⟨⟨a1, a2⟩, ⟨b1, b2⟩, ⟨c1, c2⟩, ⟨d1, d2⟩⟩, ⟨t1, t2, t3, t4⟩, hs, hl, ⟨u1, u2⟩, ⟨v1, v2⟩,
      hc, hk⟩
    exact ⟨a1, b1, c1, d1, a2, b2, c2, d2, t1, t2, t3, t4, hs, hl, u1, v1, u2, v2, hc, hk⟩

theorem cellOk_blank (cfg : Cfg) : CellOk cfg blank :=
  ⟨by decide, fun _ => rfl, Or.inr (Or.inl rfl)⟩

theorem txtWF_replicate (cfg : Cfg) (cap : Nat) : TxtWF cfg cap (List.replicate cap blank) := by
  refine ⟨List.length_replicate, ?_⟩
  intro c hc
  rw [List.eq_of_mem_replicate hc]
  exact cellOk_blank cfg

theorem txtWF_cleared {cfg : Cfg} {cap : Nat} {t : Text} (h : TxtWF cfg cap t) :
    TxtWF cfg cap t.cleared := by
  rw [Text.cleared_eq_replicate, h.1]
  exact txtWF_replicate cfg cap

theorem updateSingle_wf {cfg : Cfg} {cap : Nat} {t : Text} (h : TxtWF cfg cap t)
    {b ei ed : Nat} (pos : Nat) (prog : Bool) (hi : ei ≤ 2) (hd : ed ≤ 2) (hb : b < 256) :
    TxtWF cfg cap (updateSingle cfg t b ei ed pos prog).1 := by
  rw [updateSingle_eq]
  split
  · exact h
  split
  · rename_i hs
    have hlow : b = 0x0D ∨ 0x20 ≤ b := ((storeOk_iff cfg _ b ei ed prog).mp hs).2.1
    refine ⟨by simpa [List.length_set] using h.1, ?_⟩
    intro c hc
    rcases List.mem_or_eq_of_mem_set hc with hc | rfl
    · exact h.2 c hc
    · have hle := calcError_le hi hd
      refine ⟨by simp only; omega, fun h10 => by simp only at h10; omega, ?_⟩
      simp only
      rcases hlow with hcr | h20
      · left; rw [hcr]; exact conv_cr cfg
      · exact Or.inr (Or.inr ⟨b, h20, hb, rfl⟩)
  · exact h

theorem updateString_wf {cfg : Cfg} {cap : Nat} {t : Text} (h : TxtWF cfg cap t)
    {ei ed : Nat} (w pos : Nat) (prog : Bool) (hi : ei ≤ 2) (hd : ed ≤ 2) :
    TxtWF cfg cap (updateString cfg t w ei ed pos prog).1 := by
  unfold updateString
  exact updateSingle_wf (updateSingle_wf h pos prog hi hd (by omega)) (pos + 1) prog hi hd (by omega)

theorem Settings.ok_iff (set : Settings) : set.Ok ↔ ∀ id k, set.corr id k ≤ 2 :=
  ⟨fun ⟨h1, h2, h3, h4, h5, h6⟩ id k => by cases id <;> cases k <;> assumption,
    fun h => ⟨h .ps .info, h .ps .data, h .rt .info, h .rt .data, h .ptyn .info, h .ptyn .data⟩⟩

theorem Settings.Ok.corr_le {set : Settings} (h : set.Ok) (id : TextId) (k : BlockType) :
    set.corr id k ≤ 2 := (Settings.ok_iff set).1 h id k

theorem parserUpdate_wf {cfg : Cfg} {cap : Nat} {t : Text} (h : TxtWF cfg cap t)
    {set : Settings} (hs : set.Ok) (id : TextId) (w eb ex pos : Nat) :
    TxtWF cfg cap (parserUpdate cfg set t id w eb ex pos).1 := by
  unfold parserUpdate
  split
  · rename_i hg
    simp only [Bool.and_eq_true, decide_eq_true_eq] at hg
    have h1 := hs.corr_le id .info
    have h2 := hs.corr_le id .data
    exact updateString_wf h w pos _ (by omega) (by omega)
  · exact h

theorem afWF_afSet {af : List Bool} (h : AfWF af) (v : Nat) : AfWF (afSet af v).1 := by
  unfold afSet
  split
  · rename_i hv
    refine ⟨by simpa [List.length_set] using h.1, ?_⟩
    intro v' hv'
    by_cases e : v = v'
    · rw [← e]; exact hv
    · exact h.2 v' (by rwa [getD_set_ne _ _ _ _ _ e] at hv')
  · exact h

theorem afWF_replicate : AfWF (List.replicate afBits false) := by
  refine ⟨List.length_replicate, ?_⟩
  intro v hv
  rw [getD_replicate_same] at hv
  cases hv

theorem addAf_used_af_wf {s : State} (v : Nat) (h : AfWF s.used.af) : AfWF (addAf s v).1.used.af := by
  rw [addAf_fst]
  split; · exact h
  split; · exact h
  exact afWF_afSet h v

theorem addAf_temp_af_wf {s : State} (v : Nat) (h : AfWF s.temp.af) : AfWF (addAf s v).1.temp.af := by
  rw [addAf_fst]
  split; · exact h
  split; · exact afWF_afSet h v
  exact h

@[simp] theorem addAf_used_country (s : State) (v : Nat) :
    (addAf s v).1.used.country = s.used.country := addAf_used_get s v .country

theorem eccLookup_ok {tb : Tabs} (h : EccOk tb) (pi ecc : Int) :
    CountryOk tb (eccLookup tb.cfg pi ecc) := by
  obtain ⟨h0, h1⟩ := h
  unfold eccLookup CountryOk
  split
  · omega
  · simp only
    split
    · omega
    · have := h1 (pi.toNat / 4096 % 16) ecc.toNat
      omega

end RDS
