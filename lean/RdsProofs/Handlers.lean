import RdsProofs.Frame
/-!
# RdsProofs.Handlers — the group handlers of RdsModel/Groups by parts, what each writes, `dispatch` by cases

The bodies of the handlers are cut into named parts, so that a proof can speak about one part, and an equation by `rfl`
puts each together again. `group4_eq`: `g4ok` is the 4A guard without the registration test. `group2_eq`: `g2clr` is
`clr`, `g2s2` is `s2` (the state after the toggle detection, `g2step` with the two tests as parameters), `g2u` is
`(u1, u2)`, `g2tail` is the branch behind the bit-flip guard, which `g2noisy` reads on the incoming state (`g2noisy_eq`).
`group0_eq`: `g0r1` is `r1` (TA and MS), `g0u` the PS update, `g0ps` all of it up to the AF pair. `group10_eq`: `g10u`
is `(u1, u2)`. Then one frame equation per handler in the erased form of Frame.lean, and from them `process_noData`;
`dispatch_cases`; last, the four text buffers by number (`State.text`) under each handler.
-/
namespace RDS

def g4ok (g : Group) : Bool := !g.versionB && g.eb = 0 && g.ec = 0 && g.ed = 0

theorem group4_eq (s : State) (g : Group) :
    group4 s g = if (g4ok g && s.registered .ct) then
        (match ctInit (ctFields g).1 (ctFields g).2.1 (ctFields g).2.2.1 (ctFields g).2.2.2 with
         | some v => (s, emit s .ct (.ct v))
         | none => (s, []))
      else (s, []) := rfl

theorem group4_fst (s : State) (g : Group) : (group4 s g).1 = s := by
  rw [group4_eq]
  split
  · split <;> rfl
  · rfl

/-- the registration test of `group4` is the one `emit` makes anyway -/
theorem group4_snd (s : State) (g : Group) :
    (group4 s g).2 = if g4ok g then
        (match ctInit (ctFields g).1 (ctFields g).2.1 (ctFields g).2.2.1 (ctFields g).2.2.2 with
         | some v => emit s .ct (.ct v)
         | none => [])
      else [] := by
  rw [group4_eq]
  cases g4ok g
  · rfl
  · cases hr : s.registered .ct <;>
      cases ctInit (ctFields g).1 (ctFields g).2.1 (ctFields g).2.2.1 (ctFields g).2.2.2 <;> simp [emit, hr]

/-- `clr` of `group2`, read on the incoming state: will the toggle detection discard the addressed RT buffer? -/
def g2clr (s : State) (g : Group) : Bool :=
  let flag := g.b / 16 % 2
  let sw := g.eb = 0 && ((flag : Int) != s.lastRt)
  sw && s.lastRt != -1 && getAvailable (s.rt flag)

/-- the toggle detection with its two tests as parameters -/
def g2step (g : Group) (clr sw : Bool) (s : State) : State :=
  let s1 := if clr then s.setRt (g.b / 16 % 2) (s.rt (g.b / 16 % 2)).cleared else s
  if sw then { s1 with lastRt := (g.b / 16 % 2 : Nat) } else s1

def g2s2 (s : State) (g : Group) : State :=
  g2step g (g2clr s g) (decide (g.eb = 0) && (((g.b / 16 % 2 : Nat) : Int) != s.lastRt)) s

theorem g2s2_lastRt (s : State) (g : Group) :
    (g2s2 s g).lastRt = if g.eb = 0 then ((g.b / 16 % 2 : Nat) : Int) else s.lastRt := by
  unfold g2s2 g2step g2clr
  simp only []
  by_cases hb : g.eb = 0
  · by_cases hf : ((g.b / 16 % 2 : Nat) : Int) = s.lastRt
    · simp only [hb, hf, decide_true, Bool.true_and, bne_self_eq_false, Bool.false_and,
        Bool.false_eq_true, if_false, if_true]
    · have hne : (((g.b / 16 % 2 : Nat) : Int) != s.lastRt) = true := by simpa using hf
      simp only [hb, hne, decide_true, Bool.true_and, if_true]
  · simp only [hb, decide_false, Bool.false_and, Bool.false_eq_true, if_false]

/-- the bit-flip guard of `group2`, read on the incoming state (block B has errors, so `g2s2` keeps `lastRt`) -/
def g2noisy (s : State) (g : Group) : Bool :=
  g.eb != 0 && s.lastRt != -1 && ((g.b / 16 % 2 : Nat) : Int) != s.lastRt

theorem g2noisy_eq (s : State) (g : Group) :
    (g.eb != 0 && ((g.b / 16 % 2 : Nat) : Int) != (g2s2 s g).lastRt && (g2s2 s g).lastRt != -1) = g2noisy s g := by
  rw [g2s2_lastRt]
  by_cases he : g.eb = 0
  · simp [g2noisy, he]
  · rw [if_neg he]; exact Bool.and_right_comm ..

def g2u (cfg : Cfg) (s2 : State) (g : Group) : (Text × Bool) × (Text × Bool) :=
  let flag := g.b / 16 % 2
  let pos := g.b % 16
  let u1 := if !g.versionB
    then parserUpdate cfg s2.set (s2.rt flag) .rt g.c g.eb g.ec (4 * pos)
    else (s2.rt flag, false)
  let pos2 := if !g.versionB then 4 * pos + 2 else 2 * pos
  (u1, parserUpdate cfg s2.set u1.1 .rt g.d g.eb g.ed pos2)

def g2tail (cfg : Cfg) (s2 : State) (g : Group) (clr : Bool) : State × List Event :=
  let flag := g.b / 16 % 2
  let u := g2u cfg s2 g
  let s3 := s2.setRt flag u.2.1
  (s3, if clr || u.1.2 || u.2.2 then emit s3 .rt (.rt flag) else [])

theorem group2_eq (cfg : Cfg) (s : State) (g : Group) :
    group2 cfg s g =
      if g.eb != 0 && ((g.b / 16 % 2 : Nat) : Int) != (g2s2 s g).lastRt && (g2s2 s g).lastRt != -1
      then (g2s2 s g, []) else g2tail cfg (g2s2 s g) g (g2clr s g) := rfl

def g0u (cfg : Cfg) (s : State) (g : Group) : Text × Bool :=
  parserUpdate cfg s.set s.ps .ps g.d g.eb g.ed (2 * (g.b % 4))

/-- `r1` of `group0`: TA and MS from an error-free block B -/
def g0r1 (s : State) (g : Group) : State × List Event :=
  if g.eb = 0 then
    let a := setField s .ta (g.b / 16 % 2 : Nat)
    let b := setField a.1 .ms (g.b / 8 % 2 : Nat)
    (b.1, a.2 ++ b.2)
  else (s, [])

/-- `(s2, r1.2 ++ e2)` of `group0`: what it does before the AF pair -/
def g0ps (cfg : Cfg) (s : State) (g : Group) : State × List Event :=
  let r1 := g0r1 s g
  let u := g0u cfg r1.1 g
  let s2 := { r1.1 with ps := u.1 }
  (s2, r1.2 ++ if u.2 then emit s2 .ps .ps else [])

theorem group0_eq (cfg : Cfg) (s : State) (g : Group) :
    group0 cfg s g =
      if !g.versionB && g.eb = 0 && g.ec = 0 && g.c / 256 % 256 != 250 then
        let a1 := addAf (g0ps cfg s g).1 (g.c / 256 % 256)
        let a2 := addAf a1.1 (g.c % 256)
        (a2.1, (g0ps cfg s g).2 ++ a1.2 ++ a2.2)
      else g0ps cfg s g := rfl

def g10u (cfg : Cfg) (s : State) (g : Group) : (Text × Bool) × (Text × Bool) :=
  let u1 := parserUpdate cfg s.set s.ptyn .ptyn g.c g.eb g.ec (4 * (g.b % 2))
  (u1, parserUpdate cfg s.set u1.1 .ptyn g.d g.eb g.ed (4 * (g.b % 2) + 2))

theorem group10_eq (cfg : Cfg) (s : State) (g : Group) :
    group10 cfg s g =
      if !g.versionB then
        let s' := { s with ptyn := (g10u cfg s g).2.1 }
        (s', if (g10u cfg s g).1.2 || (g10u cfg s g).2.2 then emit s' .ptyn .ptyn else [])
      else (s, []) := rfl

theorem group2_fst_cases (cfg : Cfg) (s : State) (g : Group) :
    (group2 cfg s g).1 = g2s2 s g ∨ ∃ t, (group2 cfg s g).1 = (g2s2 s g).setRt (g.b / 16 % 2) t := by
  rw [group2_eq]
  split
  · left; rfl
  · right; exact ⟨_, rfl⟩

theorem groupCommon_noBuf (s : State) (g : Group) : (groupCommon s g).1.noBuf = s.noBuf := by
  unfold groupCommon
  extract_lets r1
  have h1 : r1.1.noBuf = s.noBuf := by unfold r1; split <;> rfl
  split
  · exact (setField_noBuf ..).trans ((setField_noBuf ..).trans h1)
  · exact h1

@[simp] theorem groupCommon_set (s : State) (g : Group) : (groupCommon s g).1.set = s.set :=
  (congrArg State.set (groupCommon_noBuf s g) :)

theorem groupCommon_used_af (s : State) (g : Group) : (groupCommon s g).1.used.af = s.used.af := by
  unfold groupCommon; split <;> split <;> simp

theorem group1_noBuf (cfg : Cfg) (s : State) (g : Group) : (group1 cfg s g).1.noBuf = s.noBuf := by
  unfold group1; split
  · exact (setField_noBuf ..).trans (setField_noBuf ..)
  · rfl

theorem group10_noTxt (cfg : Cfg) (s : State) (g : Group) : (group10 cfg s g).1.noTxt = s.noTxt := by
  rw [group10_eq]; split <;> rfl

theorem g0r1_noBuf (s : State) (g : Group) : (g0r1 s g).1.noBuf = s.noBuf := by
  unfold g0r1; split
  · exact (setField_noBuf ..).trans (setField_noBuf ..)
  · rfl

theorem g0ps_set (cfg : Cfg) (s : State) (g : Group) : (g0ps cfg s g).1.set = s.set :=
  (congrArg State.set (g0r1_noBuf s g) :)

theorem g0ps_used_af (cfg : Cfg) (s : State) (g : Group) : (g0ps cfg s g).1.used.af = s.used.af := by
  unfold g0ps g0r1; split <;> simp

theorem group0_noBufPs (cfg : Cfg) (s : State) (g : Group) :
    (group0 cfg s g).1.noBuf.noPs = s.noBuf.noPs := by
  have h : (g0ps cfg s g).1.noBuf.noPs = s.noBuf.noPs := (congrArg State.noPs (g0r1_noBuf s g) :)
  rw [group0_eq]
  split
  · exact (congrArg State.noPs ((addAf_noBuf _ _).trans (addAf_noBuf _ _))).trans h
  · exact h

theorem g2s2_noTxtLast (s : State) (g : Group) : (g2s2 s g).noTxt.noLast = s.noTxt.noLast := by
  unfold g2s2 g2step
  extract_lets s1
  have h1 : s1.noTxt = s.noTxt := by
    unfold s1; split
    · exact setRt_noTxt ..
    · rfl
  split <;> exact (congrArg State.noLast h1 :)

theorem group2_noTxtLast (cfg : Cfg) (s : State) (g : Group) :
    (group2 cfg s g).1.noTxt.noLast = s.noTxt.noLast := by
  rcases group2_fst_cases cfg s g with h | ⟨t, h⟩ <;> rw [h]
  · exact g2s2_noTxtLast s g
  · exact (congrArg State.noLast (setRt_noTxt ..)).trans (g2s2_noTxtLast s g)

theorem group2_lastRt (cfg : Cfg) (s : State) (g : Group) :
    (group2 cfg s g).1.lastRt = if g.eb = 0 then ((g.b / 16 % 2 : Nat) : Int) else s.lastRt := by
  rcases group2_fst_cases cfg s g with h | ⟨t, h⟩ <;> rw [h]
  · exact g2s2_lastRt s g
  · exact (setRt_lastRt ..).trans (g2s2_lastRt s g)

theorem dispatch_cases {P : State × List Event → Prop} (cfg : Cfg) (s : State) (g : Group)
    (h0 : g.type = 0 → P (group0 cfg s g)) (h1 : g.type = 1 → P (group1 cfg s g))
    (h2 : g.type = 2 → P (group2 cfg s g)) (h4 : g.type = 4 → P (group4 s g))
    (h10 : g.type = 10 → P (group10 cfg s g))
    (hn : g.type ≠ 0 → g.type ≠ 1 → g.type ≠ 2 → g.type ≠ 4 → g.type ≠ 10 → P (s, [])) :
    P (dispatch cfg s g) := by
  unfold dispatch
  by_cases t0 : g.type = 0
  · rw [if_pos t0]; exact h0 t0
  by_cases t1 : g.type = 1
  · rw [if_neg t0, if_pos t1]; exact h1 t1
  by_cases t2 : g.type = 2
  · rw [if_neg t0, if_neg t1, if_pos t2]; exact h2 t2
  by_cases t4 : g.type = 4
  · rw [if_neg t0, if_neg t1, if_neg t2, if_pos t4]; exact h4 t4
  by_cases t10 : g.type = 10
  · rw [if_neg t0, if_neg t1, if_neg t2, if_neg t4, if_pos t10]; exact h10 t10
  · rw [if_neg t0, if_neg t1, if_neg t2, if_neg t4, if_neg t10]; exact hn t0 t1 t2 t4 t10

theorem dispatch_noData (cfg : Cfg) (s : State) (g : Group) : (dispatch cfg s g).1.noData = s.noData :=
  dispatch_cases (P := fun r => r.1.noData = s.noData) cfg s g
    (fun _ => (congrArg (fun x : State => x.noTxt.noLast) (group0_noBufPs ..) :))
    (fun _ => (congrArg (fun x : State => x.noTxt.noLast) (group1_noBuf ..) :))
    (fun _ => (congrArg State.noBuf (group2_noTxtLast ..) :)) (fun _ => by rw [group4_fst])
    (fun _ => (congrArg (fun x : State => x.noLast.noBuf) (group10_noTxt ..) :)) (fun _ _ _ _ _ => rfl)

theorem process_noData (cfg : Cfg) (s : State) (g : Group) : (process cfg s g).1.noData = s.noData :=
  (dispatch_noData cfg _ g).trans (congrArg (fun x : State => x.noTxt.noLast) (groupCommon_noBuf s g) :)

theorem process_set (cfg : Cfg) (s : State) (g : Group) : (process cfg s g).1.set = s.set :=
  (congrArg State.set (process_noData cfg s g) :)

/-! ## the four text buffers by number, and what each handler does to them -/

/-- the four text buffers by number (0 = PS, 1 = RT-A, 2 = RT-B, 3 = PTYN) -/
def State.text (s : State) : Nat → Text
  | 0 => s.ps | 1 => s.rt0 | 2 => s.rt1 | _ => s.ptyn

theorem text_rt (s : State) (f : Nat) (hf : f < 2) : s.text (1 + f) = s.rt f := by
  match f, hf with
  | 0, _ | 1, _ => rfl

theorem setRt_text_ne {s : State} {f t : Nat} {x : Text} (hf : f < 2) (h : t ≠ 1 + f) :
    (s.setRt f x).text t = s.text t := by
  have : f = 0 ∨ f = 1 := by omega
  unfold State.setRt
  match t with
  | 0 => split <;> rfl
  | 1 => rcases this with rfl | rfl <;> first | rfl | exact absurd rfl h
  | 2 => rcases this with rfl | rfl <;> first | rfl | exact absurd rfl h
  | _ + 3 => split <;> rfl
@[simp] theorem lastRt_upd_text (s : State) (x : Int) (t : Nat) :
    ({ s with lastRt := x } : State).text t = s.text t := by
  match t with
  | 0 | 1 | 2 | _ + 3 => rfl
@[simp] theorem lastRt_upd_rt (s : State) (x : Int) (f : Nat) : ({ s with lastRt := x } : State).rt f = s.rt f := rfl

section group0
variable (cfg : Cfg) (s : State) (g : Group)
theorem group0_ps : (group0 cfg s g).1.ps = (g0u cfg s g).1 := by
  rw [group0_eq]
  unfold g0ps g0u g0r1
  simp only [apply_ite Prod.fst, apply_ite State.ps, apply_ite State.set, addAf_ps, setField_ps, setField_set, ite_self]
theorem group0_set : (group0 cfg s g).1.set = s.set :=
  (congrArg State.set (group0_noBufPs cfg s g) :)
theorem group0_text_succ (t : Nat) : (group0 cfg s g).1.text (t + 1) = s.text (t + 1) := by
  have h := group0_noBufPs cfg s g
  match t with
  | 0 => exact (congrArg State.rt0 h :)
  | 1 => exact (congrArg State.rt1 h :)
  | _ + 2 => exact (congrArg State.ptyn h :)
end group0

theorem group1_text (cfg : Cfg) (s : State) (g : Group) (t : Nat) : (group1 cfg s g).1.text t = s.text t :=
  (congrArg (fun x : State => x.text t) (group1_noBuf cfg s g) :)

section group10
variable (cfg : Cfg) (s : State) (g : Group)
theorem group10_text_lt {t : Nat} (h : t < 3) : (group10 cfg s g).1.text t = s.text t := by
  rw [group10_eq]; split
  · match t, h with
    | 0, _ | 1, _ | 2, _ => rfl
  · rfl
theorem group10_ptyn_A (h : g.versionB = false) : (group10 cfg s g).1.ptyn = (g10u cfg s g).2.1 := by
  rw [group10_eq, h]; rfl
theorem group10_B (h : g.versionB = true) : group10 cfg s g = (s, []) := by
  rw [group10_eq, h]; rfl
end group10

section g2s2
variable (s : State) (g : Group)
@[simp] theorem g2s2_set : (g2s2 s g).set = s.set := (congrArg State.set (g2s2_noTxtLast s g) :)
theorem g2step_rt_same (clr sw : Bool) :
    (g2step g clr sw s).rt (g.b / 16 % 2) = if clr then (s.rt (g.b / 16 % 2)).cleared else s.rt (g.b / 16 % 2) := by
  cases clr <;> cases sw <;> simp only [g2step, lastRt_upd_rt, setRt_rt_same, if_true, Bool.false_eq_true, if_false]
theorem g2step_text_ne (clr sw : Bool) (t : Nat) (h : t ≠ 1 + g.b / 16 % 2) : (g2step g clr sw s).text t = s.text t := by
  have hlt : g.b / 16 % 2 < 2 := Nat.mod_lt _ (by decide)
  cases clr <;> cases sw <;>
    simp only [g2step, lastRt_upd_text, setRt_text_ne hlt h, if_true, Bool.false_eq_true, if_false]
theorem g2s2_rt_same : (g2s2 s g).rt (g.b / 16 % 2) =
    if g2clr s g then (s.rt (g.b / 16 % 2)).cleared else s.rt (g.b / 16 % 2) :=
  g2step_rt_same s g _ _
theorem g2s2_text_ne (t : Nat) (h : t ≠ 1 + g.b / 16 % 2) : (g2s2 s g).text t = s.text t :=
  g2step_text_ne s g _ _ t h
end g2s2

@[simp] theorem cleared_length (t : Text) : t.cleared.length = t.length := by simp [Text.cleared]

end RDS
