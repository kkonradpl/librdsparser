import RdsProofs.TransAbs
import RdsProofs.CellsSingle
/-!
# RdsProofs.TransString — refinement of `src/string.c` and `rdsparser_parser_update_string`

The translated C functions, read through `absText` (`RdsProofs/TransAbs.lean`), are the model's text functions:
`rdsparser_string_update_single` (both builds) is `updateSingle`; `rdsparser_parser_update_string` (the threshold gate and
the two bytes of `rdsparser_string_update`) is `parserUpdate`, under the extra hypothesis `cap ≤ 256`, because
`rdsparser_string_update` passes `position + i` to a `uint8_t` parameter (`ts_parser_update_string_cap_needed` is the
counterexample without it); the three `for (i = 0; i < size; i++)` loops are `Text.cleared`, `getAvailable`, `getLength`.
`tg_TR` is a run of `rdsparser_parser_update_string` calls on one buffer of the state, the form in which the group
handlers use all this.
-/

namespace RDS.C
open RDS
open RDS.C.TransBits (calculate_error_eq)

theorem ts_charset_nonneg : ∀ x ∈ c_rdsparser_string_convert_charset, 0 ≤ x := by decide +kernel
theorem ts_charset_length : c_rdsparser_string_convert_charset.length = 224 := by decide +kernel

theorem ts_zipWith_set {α β γ : Type} (f : α → β → γ) (l1 : List α) (l2 : List β) (i : Nat) (a : α) (b : β) :
    List.zipWith f (l1.set i a) (l2.set i b) = (List.zipWith f l1 l2).set i (f a b) := by
  induction l1 generalizing l2 i with
  | nil => simp
  | cons x xs ih =>
    cases l2 with
    | nil => simp
    | cons y ys =>
      cases i with
      | zero => simp
      | succ i => simp [ih]

theorem ts_forRange_two {σ : Type} (init : σ) (body : σ → Int → σ) :
    forRange 2 init body = body (body init 0) 1 := rfl

theorem ts_conv_U (b : Nat) (hb : b < 256) :
    c_rdsparser_string_convert_U (b : Int) = (conv (cfgC true) b : Int) := by
  -- both sides make the same two tests and read the same table entry, which is a natural
  have hi : ((b : Int) - 32).toNat = b - 32 := by omega
  have hlt : b - 32 < c_rdsparser_string_convert_charset.length := by rw [ts_charset_length]; omega
  have hnn := Int.toNat_of_nonneg (ts_charset_nonneg _ (List.getElem_mem hlt))
  simp only [c_rdsparser_string_convert_U, conv, cfgC, getI, hi, List.getD_eq_getElem?_getD, List.getElem?_eq_getElem hlt,
    Option.getD_some, natCast_beq_lit, natCast_decide_lt_lit, decide_eq_true_eq, if_true, apply_ite Nat.cast, hnn]
  rfl

theorem ts_conv_N (b : Nat) (hb : b < 127) :
    c_rdsparser_string_convert_N (b : Int) = (conv (cfgC false) b : Int) := by
  simp only [c_rdsparser_string_convert_N, conv, cfgC, natCast_beq_lit, decide_eq_true_eq, Bool.false_eq_true, if_false, if_neg (Nat.not_le.2 hb), apply_ite Nat.cast]
  rfl

theorem ts_cell (s : CStr) (cap : Nat) (hs : StrOk s cap) (i : Nat) (hi : i < cap) :
    ∃ c e : Nat, s.content.getD i 0 = (c : Int) ∧ s.errors.getD i 0 = (e : Int) ∧ (absText s)[i]? = some ⟨c, e⟩ := by
  have h1 : i < s.content.length := hs.content_len ▸ hi
  have h2 : i < s.errors.length := hs.errors_len ▸ hi
  refine ⟨s.content[i].toNat, s.errors[i].toNat, ?_, ?_, ?_⟩
  · rw [List.getD_eq_getElem?_getD, List.getElem?_eq_getElem h1]
    exact (Int.toNat_of_nonneg (hs.content_nonneg _ (List.getElem_mem h1))).symm
  · rw [List.getD_eq_getElem?_getD, List.getElem?_eq_getElem h2]
    exact (Int.toNat_of_nonneg (hs.errors_range _ (List.getElem_mem h2)).1).symm
  · simp [absText, List.getElem?_zipWith, List.getElem?_eq_getElem h1, List.getElem?_eq_getElem h2]

theorem ts_calcError_le (ei ed : Nat) : calcError ei ed ≤ 2 * ei + 3 * ed := by
  unfold calcError; split
  · exact Nat.zero_le _
  · exact Nat.sub_le _ _

theorem ts_store (s : CStr) (cap : Nat) (hs : StrOk s cap) (pos cv err : Nat) (herr : err < 256) :
    absText { s with content := s.content.set pos (cv : Int), errors := s.errors.set pos (err : Int) }
        = (absText s).set pos ⟨cv, err⟩ ∧
    StrOk { s with content := s.content.set pos (cv : Int), errors := s.errors.set pos (err : Int) } cap := by
  exact ⟨by simp [absText, ts_zipWith_set], hs.size, List.length_set.trans hs.content_len,
    List.length_set.trans hs.errors_len, hs.term, forall_mem_set hs.content_nonneg pos (Int.natCast_nonneg cv),
    forall_mem_set hs.errors_range pos ⟨Int.natCast_nonneg err, by omega⟩⟩

theorem ts_rej : (Store.rejected == Store.stored) = false := rfl
theorem ts_sto : (Store.stored == Store.stored) = true := rfl

/-- The guard clauses of `rdsparser_string_update_single` in source order, the continuation copied into every branch as the translator
emits it, flattened: `A` = leave the string, `T127`/`T` = what follows for a byte above / below 0x7F (the two builds
differ only there). The left side is the `if` tree of the translated `c_rdsparser_string_update_single_U/_N`;
`update_single_refines` applies it by `rw`, and fails there when the tree changes. -/
theorem ts_tree {α : Type} (pr p13 e1 p32 p127 : Bool) (A T127 T : α) :
    (if pr then A else if p13 then (if e1 then A else if p127 then T127 else T)
      else if p32 then A else if p127 then T127 else T) =
    if pr || (p13 && e1) || (!p13 && p32) then A else if p127 then T127 else T := by
  cases pr <;> cases p13 <;> cases e1 <;> cases p32 <;> rfl

theorem ts_ite_or {α : Type} (c d : Bool) (A B : α) :
    (if c then A else if d then A else B) = if c || d then A else B := by
  cases c <;> rfl

theorem ts_ite_tail {α : Type} (c d q : Bool) (A B : α) :
    (if c then (if d || q then A else B) else if q then A else B) = if (c && d) || q then A else B := by
  cases c <;> cases d <;> cases q <;> rfl

theorem ts_ite_not {α : Type} (c : Bool) (A B : α) : (if c then A else B) = if !c then B else A := by
  cases c <;> rfl

theorem ts_bne (x y : Nat) : (x != y) = !decide (x = y) := by
  by_cases h : x = y <;> simp [h]

/-- The flattened C side against the model: both are "store unless one of five tests rejects", and the casts make the
two conditions the same Boolean. `ch` is the converted character, `e127` the test for bytes from 0x7F on; the two builds
supply them differently. The condition of `r` is pasted from the translated function as `ts_tree`, `ts_ite_or`,
`ts_ite_tail` leave it (`!((1 : Int) != 0)` is the argument `allow_eol = 1`); `update_single_refines` closes with it by
`exact`, and fails there when the condition changes. -/
theorem ts_single (u : Bool) (s : CStr) (cap : Nat) (hs : StrOk s cap) (b ei ed pos : Nat) (prog : Bool)
    (hsum : 2 * ei + 3 * ed < 256) (hpos : pos < cap) (ch : Int) (hch : ch = (conv (cfgC u) b : Nat))
    (e127 : Bool) (he : e127 = (decide (127 ≤ b) && (ei != 0 || ed != 0))) :
    let err := c_rdsparser_string_calculate_error ei ed
    let r : Int × CStr := if (b2i prog != 0 && decide (getI s.errors pos < err)) ||
          ((b : Int) == 13 && (!((1 : Int) != 0) || (ei : Int) != 0 || (ed : Int) != 0)) ||
          (!((b : Int) == 13) && decide ((b : Int) < 32)) ||
          (e127 || (getI s.content pos == ch && decide (getI s.errors pos ≤ err)))
      then ((0 : Int), s)
      else ((1 : Int), { s with content := listSet s.content pos ch, errors := listSet s.errors pos err })
    absText r.2 = (updateSingle (cfgC u) (absText s) b ei ed pos prog).1 ∧
      r.1 = b2i ((updateSingle (cfgC u) (absText s) b ei ed pos prog).2 == Store.stored) ∧ StrOk r.2 cap := by
  obtain ⟨cn, en, hcn, hen, hcell⟩ := ts_cell s cap hs pos hpos
  have herr := ts_calcError_le ei ed
  have hst := ts_store s cap hs pos (conv (cfgC u) b) (calcError ei ed) (by omega)
  subst hch he
  simp only []
  rw [ts_ite_not, updateSingle_some _ _ _ _ _ _ _ _ hcell]
  simp only [calculate_error_eq ei ed hsum, getI_natCast, listSet_natCast, hcn, hen, storeOk,
    natCast_decide_le, natCast_decide_lt, natCast_bne_zero, b2i_ne_zero, natCast_beq, ts_bne, natCast_beq_lit,
    natCast_decide_lt_lit,
    show (!((1 : Int) != 0)) = false from rfl, Bool.false_or, Bool.or_assoc, Bool.not_or, Bool.and_assoc]
  generalize (_ && _ : Bool) = ok
  cases ok
  · exact ⟨rfl, rfl, hs⟩
  · exact ⟨hst.1, rfl, hst.2⟩

theorem update_single_refines (u : Bool) (s : CStr) (cap : Nat) (hs : StrOk s cap) (b ei ed pos : Nat) (prog : Bool)
    (hb : b < 256) (hsum : 2 * ei + 3 * ed < 256) (hpos : pos < cap) :
    let r := c_rdsparser_string_update_single u s (b : Int) (ei : Int) (ed : Int) (pos : Int) (b2i prog) 1
    let m := updateSingle (cfgC u) (absText s) b ei ed pos prog
    absText r.2 = m.1 ∧ r.1 = b2i (m.2 == Store.stored) ∧ StrOk r.2 cap := by
  cases u
  · -- the narrow build replaces a byte from 0x7F on by a space before converting it
    simp only [c_rdsparser_string_update_single, Bool.false_eq_true, if_false, c_rdsparser_string_update_single_N]
    rw [ts_tree]
    by_cases h127 : 127 ≤ b
    · have hcv : c_rdsparser_string_convert false 32 = (conv (cfgC false) b : Nat) := by
        have : ¬ b = 13 := by omega
        simp [c_rdsparser_string_convert, c_rdsparser_string_convert_N, conv, cfgC, this, h127]
      rw [show decide (127 ≤ (b : Int)) = true from decide_eq_true (by omega), if_pos rfl,
        ts_ite_or ((ei : Int) != 0 || (ed : Int) != 0), ts_ite_or]
      exact ts_single false s cap hs b ei ed pos prog hsum hpos _ hcv ((ei : Int) != 0 || (ed : Int) != 0)
        (by rw [decide_eq_true h127, Bool.true_and, natCast_bne_zero, natCast_bne_zero])
    · rw [show decide (127 ≤ (b : Int)) = false from decide_eq_false (by omega), if_neg Bool.false_ne_true, ts_ite_or]
      exact ts_single false s cap hs b ei ed pos prog hsum hpos _ (ts_conv_N b (by omega)) false
        (by rw [decide_eq_false h127, Bool.false_and])
  · simp only [c_rdsparser_string_update_single, if_true, c_rdsparser_string_update_single_U]
    rw [ts_tree, ts_ite_or, ts_ite_tail, ts_ite_or]
    exact ts_single true s cap hs b ei ed pos prog hsum hpos _ (ts_conv_U b hb) _
      (by rw [lit_decide_le_natCast, natCast_bne_zero, natCast_bne_zero])

theorem ts_update_refines (u : Bool) (s : CStr) (cap : Nat) (hs : StrOk s cap) (input : List Int)
    (b1 b2 ei ed pos : Nat) (prog : Bool)
    (h0 : u8 (getI input 0) = (b1 : Int)) (h1 : u8 (getI input 1) = (b2 : Int))
    (hsum : 2 * ei + 3 * ed < 256) (hpos : pos + 1 < cap) (hcap : cap ≤ 256) :
    let r := c_rdsparser_string_update u s input (ei : Int) (ed : Int) (pos : Int) (b2i prog) 1
    let m1 := updateSingle (cfgC u) (absText s) b1 ei ed pos prog
    let m2 := updateSingle (cfgC u) m1.1 b2 ei ed (pos + 1) prog
    absText r.2 = m2.1 ∧ r.1 = b2i (m1.2 == Store.stored || m2.2 == Store.stored) ∧ StrOk r.2 cap := by
  have hb1 : b1 < 256 := by have := u8_range (getI input 0); omega
  have hb2 : b2 < 256 := by have := u8_range (getI input 1); omega
  have hp0 : u8 ((pos : Int) + 0) = (pos : Int) := u8_add_natCast pos 0 (by omega)
  have hp1 : u8 ((pos : Int) + 1) = ((pos + 1 : Nat) : Int) := u8_add_natCast pos 1 (by omega)
  obtain ⟨a1, a2, a3⟩ := update_single_refines u s cap hs b1 ei ed pos prog hb1 hsum (by omega)
  obtain ⟨c1, c2, c3⟩ := update_single_refines u _ cap a3 b2 ei ed (pos + 1) prog hb2 hsum hpos
  simp only [c_rdsparser_string_update, ts_forRange_two, h0, h1, hp0, hp1]
  rw [a1] at c1 c2
  refine ⟨c1, ?_, c3⟩
  -- `changed` starts as 0 and is OR-ed with each call's result
  rw [a2, c2, show bor 0 (b2i _) = bor (b2i false) (b2i _) from rfl, bor_b2i, b2i_ne_zero, bor_b2i, b2i_ne_zero,
    Bool.false_or]

theorem ts_settings (ctx : C_librdsparser) (t : TextId) :
    (absSet ctx).corr t .info = ((getL ctx.correction (textIdx t)).getD 0 0).toNat ∧
    (absSet ctx).corr t .data = ((getL ctx.correction (textIdx t)).getD 1 0).toNat ∧
    (absSet ctx).prog t = (getI ctx.progressive (textIdx t) != 0) := by
  cases t <;> exact ⟨rfl, rfl, rfl⟩

theorem ts_corr_range (ctx : C_librdsparser) (hI : CInv ctx) (t : TextId) (j : Nat) :
    0 ≤ (getL ctx.correction (textIdx t)).getD j 0 ∧ (getL ctx.correction (textIdx t)).getD j 0 ≤ 2 :=
  forall_getD (hI.corrRow t).2 (by decide) j

theorem ts_prog_val (ctx : C_librdsparser) (hI : CInv ctx) (t : TextId) :
    getI ctx.progressive (textIdx t) = b2i ((absSet ctx).prog t) := by
  rw [(ts_settings ctx t).2.2]
  rcases hI.progVal t with h | h <;> simp [h]

/-- The two threshold tests may be written `if (e <= thr && …)` or as guard clauses `if (thr < e) return false;`:
with the second comparison expressed by the first, evaluating the tests decides either form. -/
theorem ts_lt_le (a b : Int) : decide (b < a) = !decide (a ≤ b) := by
  rw [Bool.eq_iff_iff, decide_eq_true_eq, Bool.not_eq_true', decide_eq_false_iff_not, Int.not_le]

-- `ts_lt_le`, `Bool.not_true`, `Bool.false_eq_true`, `if_false` serve the guard-clause spelling only
set_option linter.unusedSimpArgs false in
theorem ts_parser_update (u : Bool) (ctx : C_librdsparser) (hI : CInv ctx) (s : CStr) (cap : Nat)
    (hs : StrOk s cap) (g : Group) (t : TextId) (blk w ex pos : Nat)
    (hdat : getI (dataOf g) (blk : Int) = (w : Int)) (herrx : getI (errorsOf g) (blk : Int) = (ex : Int))
    (hpos : pos + 1 < cap) (hcap : cap ≤ 256) :
    let r := c_rdsparser_parser_update_string u ctx s (textIdx t) (blk : Int) (dataOf g) (errorsOf g) (pos : Int)
    let m := parserUpdate (cfgC u) (absSet ctx) (absText s) t w g.eb ex pos
    absText r.2 = m.1 ∧ (r.1 != 0) = m.2 ∧ (r.1 = 0 ∨ r.1 = 1) ∧ StrOk r.2 cap := by
  obtain ⟨i0, i1⟩ := ts_corr_range ctx hI t 0
  obtain ⟨d0, d1⟩ := ts_corr_range ctx hI t 1
  have hebC : (errorsOf g).getD 1 0 = (g.eb : Int) := rfl
  unfold c_rdsparser_parser_update_string parserUpdate
  simp only [hebC, herrx, hdat, (ts_settings ctx t).1, (ts_settings ctx t).2.1, ts_lt_le]
  generalize (getL ctx.correction (textIdx t)).getD 0 0 = ci at i0 i1 ⊢
  generalize (getL ctx.correction (textIdx t)).getD 1 0 = cd at d0 d1 ⊢
  have hi : decide ((g.eb : Int) ≤ ci) = decide (g.eb ≤ ci.toNat) := decide_eq_decide.2 (by omega)
  have hd : decide ((ex : Int) ≤ cd) = decide (ex ≤ cd.toNat) := decide_eq_decide.2 (by omega)
  rw [hi, hd]
  by_cases hgate : g.eb ≤ ci.toNat ∧ ex ≤ cd.toNat
  · simp only [hgate.1, hgate.2, decide_true, Bool.and_self, Bool.not_true, Bool.false_eq_true, if_true, if_false,
      updateString, ts_prog_val ctx hI t]
    -- the two `char`s of the chunk, read back as `uint8_t`
    have hhi : u8 (i8 (shr (w : Int) 8)) = ((w / 256 % 256 : Nat) : Int) := by rw [u8_i8, shr_lit, u8_nat]
    have hlo : u8 (i8 (u8 (w : Int))) = ((w % 256 : Nat) : Int) := by rw [u8_i8, u8_u8, u8_nat]
    obtain ⟨h1, h2, h3⟩ := ts_update_refines u s cap hs
      (((List.replicate 2 (0 : Int)).set 0 (i8 (shr (w : Int) 8))).set 1 (i8 (u8 (w : Int))))
      (w / 256 % 256) (w % 256) g.eb ex pos ((absSet ctx).prog t) hhi hlo
      -- past the gate `eb ≤ ci`, `ex ≤ cd`, and a threshold is at most 2 (`i1`, `d1`, from `CInv.corr`): `2·eb + 3·ex ≤ 10`,
      -- so the `uint8_t` sum in `calculate_error` does not wrap
      (by omega) hpos hcap
    refine ⟨h1, ?_, ?_, h3⟩
    · rw [h2, b2i_ne_zero]
    · rw [h2]; generalize (_ || _ : Bool) = bb; cases bb <;> simp
  · by_cases ha : g.eb ≤ ci.toNat
    · have hb : ¬ ex ≤ cd.toNat := fun h => hgate ⟨ha, h⟩
      simp [ha, hb, hs]
    · simp [ha, hs]

/-- `context` is only read for `correction[text][·]` and `progressive[text]`. `hcap` is necessary: `rdsparser_string_update`
passes `position + i` to the `uint8_t position` of `rdsparser_string_update_single` (`ts_parser_update_string_cap_needed`). -/
theorem parser_update_string_refines (u : Bool) (ctx : C_librdsparser) (hI : CInv ctx) (s : CStr) (cap : Nat)
    (hs : StrOk s cap) (g : Group) (hg : g.Bounded) (text blk pos : Nat) (ht : text < 3) (hblk : blk = 2 ∨ blk = 3)
    (hpos : pos + 1 < cap) (hcap : cap ≤ 256) :
    let id : TextId := if text = 0 then .ps else if text = 1 then .rt else .ptyn
    let w : Nat := if blk = 2 then g.c else g.d
    let ex : Nat := if blk = 2 then g.ec else g.ed
    let r := c_rdsparser_parser_update_string u ctx s (text : Int) (blk : Int) (dataOf g) (errorsOf g) (pos : Int)
    let m := parserUpdate (cfgC u) (absSet ctx) (absText s) id w g.eb ex pos
    absText r.2 = m.1 ∧ (r.1 != 0) = m.2 ∧ (r.1 = 0 ∨ r.1 = 1) ∧ StrOk r.2 cap := by
  intro id
  have hid : (text : Int) = textIdx id := by
    have : text = 0 ∨ text = 1 ∨ text = 2 := by omega
    rcases this with rfl | rfl | rfl <;> rfl
  rw [hid]
  rcases hblk with rfl | rfl
  · exact ts_parser_update u ctx hI s cap hs g id 2 g.c g.ec pos rfl rfl hpos hcap
  · exact ts_parser_update u ctx hI s cap hs g id 3 g.d g.ed pos rfl rfl hpos hcap

theorem ts_absText_length (s : CStr) (cap : Nat) (hs : StrOk s cap) : (absText s).length = cap := by
  simp [absText, hs.content_len, hs.errors_len]

/-- the loop of `rdsparser_string_clear` acts on the two arrays separately; the loop body is pasted from the translated
function, and `ts_clear_eq` fails at its `rw` when it changes -/
theorem ts_clear_fold (s : CStr) (k : Nat) :
    (List.range k).foldl (fun (string : CStr) (i : Nat) =>
        let string : CStr := { string with content := listSet string.content (i : Int) 32 }
        { string with errors := listSet string.errors (i : Int) 10 }) s =
      { s with content := (List.range k).foldl (fun (l : List Int) (i : Nat) => l.set i 32) s.content,
               errors := (List.range k).foldl (fun (l : List Int) (i : Nat) => l.set i 10) s.errors } := by
  induction k with
  | zero => rfl
  | succ k ih =>
    rw [List.range_succ, List.foldl_append, List.foldl_append, List.foldl_append, ih]
    simp [listSet]

/-- what `rdsparser_string_clear` leaves: blanks at error level 10 -/
def ts_blankStr (n : Nat) : CStr := ⟨n, List.replicate n 32, 0, List.replicate n 10⟩

theorem ts_blankStr_ok (n : Nat) : StrOk (ts_blankStr n) n :=
  StrOk.replicate n (by decide) (by decide)

theorem ts_clear_eq (s : CStr) (cap : Nat) (h : StrOk s cap) : c_rdsparser_string_clear s = ts_blankStr cap := by
  unfold c_rdsparser_string_clear
  simp only [h.size]
  rw [forRange_eq, ts_clear_fold, foldl_range_set_all 32 _ cap h.content_len, foldl_range_set_all 10 _ cap h.errors_len,
    h.size, h.term]
  rfl

theorem string_clear_refines (s : CStr) (cap : Nat) (hs : StrOk s cap) :
    absText (c_rdsparser_string_clear s) = (absText s).cleared ∧ StrOk (c_rdsparser_string_clear s) cap := by
  rw [ts_clear_eq s cap hs]
  refine ⟨?_, ts_blankStr_ok cap⟩
  unfold absText Text.cleared ts_blankStr
  simp only [List.zipWith_replicate, List.map_const', List.length_zipWith, hs.content_len, hs.errors_len, Nat.min_self]
  rfl

theorem ts_absText_cell (s : CStr) (cap : Nat) (hs : StrOk s cap) (i : Nat) (h : i < (absText s).length) :
    (getI s.content (i : Int) == 0) = ((absText s)[i].ch == 0) ∧
    (getI s.errors (i : Int) != 10) = ((absText s)[i].lvl != 10) := by
  obtain ⟨c, e, hc, he, hcell⟩ := ts_cell s cap hs i (ts_absText_length s cap hs ▸ h)
  rw [Option.some.inj ((List.getElem?_eq_getElem h).symm.trans hcell), getI_natCast, getI_natCast, hc, he]
  constructor
  · rw [Bool.eq_iff_iff, beq_iff_eq, beq_iff_eq]; exact Int.natCast_eq_zero
  · rw [Bool.eq_iff_iff, bne_iff_ne, bne_iff_ne]; show (e : Int) ≠ 10 ↔ e ≠ 10; omega

theorem string_get_available_refines (s : CStr) (cap : Nat) (hs : StrOk s cap) :
    c_rdsparser_string_get_available s = b2i (getAvailable (absText s)) := by
  have hl := ts_absText_length s cap hs
  unfold c_rdsparser_string_get_available getAvailable
  simp only [hs.size]
  rw [forRange_find cap (fun i => getI s.errors i != 10) (fun _ => 1), ← hl,
    find?_range_length (absText s) (fun c => c.lvl != 10) _ fun i h => (ts_absText_cell s cap hs i h).2,
    ← List.findIdx?_isSome]
  cases (absText s).findIdx? fun c => c.lvl != 10 <;> rfl

theorem string_get_length_refines (s : CStr) (cap : Nat) (hs : StrOk s cap) :
    c_rdsparser_string_get_length s = (getLength (absText s) : Nat) := by
  have hl := ts_absText_length s cap hs
  unfold c_rdsparser_string_get_length getLength
  simp only [hs.size]
  rw [forRange_find cap (fun i => getI s.content i == 0) (fun i => i), ← hl,
    find?_range_length (absText s) (fun c => c.ch == 0) _ fun i h => (ts_absText_cell s cap hs i h).1]
  cases (absText s).findIdx? fun c => c.ch == 0 <;> rfl

/-- a run of `rdsparser_parser_update_string` calls on the buffer `sl` that started in `r0`, so far: the C state `c.1` is `r0`
with the buffer written, `c.2` is the `changed` flag; on the model side the text `m.1` and the flag `m.2`.
A chain is `init`, then `step` and `or` for each call, then `emit`. After `step` both flags are those of the LAST call
alone (what the C call returned, the second component of `parserUpdate`); `or` is the `changed |= …` that follows and
takes as `hc` the flag from BEFORE that call: `rfl` for the flag the run started with, `h1.2.2` of the link `h1` after. -/
def tg_TR (sl : Slot) (r0 : C_librdsparser) (c : C_librdsparser × Int) (m : Text × Bool) : Prop :=
  abs c.1 = sl.mput (abs r0) m.1 ∧ CInv c.1 ∧ c.2 = b2i m.2

theorem tg_TR.init (sl : Slot) (r : C_librdsparser) (hI : CInv r) {ch : Int} {b : Bool} (hc : ch = b2i b) :
    tg_TR sl r (r, ch) (sl.mget (abs r), b) :=
  ⟨(Slot.mput_mget _ sl).symm, hI, hc⟩

/-- One call on the buffer of `sl`. Explicit arguments, as in `h.step u hsl g 2 g.c g.ec _ _ rfl rfl hp1 hpos`: the build; `hsl`
(`trivial`, or `f < 2` for `.rt f`); the group; the block index `blk` (2 = C, 3 = D) with its word `w` and error level `ex`,
of which `hdat`, `herrx` say that `dataOf g`, `errorsOf g` hold them there (`rfl` for `g.c g.ec` and `g.d g.ed`); the position
as the model's natural `pos` and as the C expression `posI`, both found from `hpI`, the handler's proof that its
`u8 (…)` does not wrap; `hpos`: both cells lie in the buffer. -/
theorem tg_TR.step {sl : Slot} {r0 r : C_librdsparser} {ch : Int} {t : Text} {b : Bool} (h : tg_TR sl r0 (r, ch) (t, b))
    (u : Bool) (hsl : sl.Ok) (g : Group) (blk w ex pos : Nat) (posI : Int)
    (hdat : getI (dataOf g) (blk : Int) = (w : Int)) (herrx : getI (errorsOf g) (blk : Int) = (ex : Int))
    (hpI : posI = (pos : Int)) (hpos : pos + 1 < sl.cap) :
    tg_TR sl r0
      (sl.put r (c_rdsparser_parser_update_string u r (sl.get r) (textIdx sl.id) (blk : Int) (dataOf g) (errorsOf g) posI).2,
        (c_rdsparser_parser_update_string u r (sl.get r) (textIdx sl.id) (blk : Int) (dataOf g) (errorsOf g) posI).1)
      (parserUpdate (cfgC u) (abs r0).set t sl.id w g.eb ex pos) := by
  obtain ⟨ha, hI, -⟩ := h
  subst hpI
  obtain ⟨h1, h2, h3, h4⟩ := ts_parser_update u r hI (sl.get r) sl.cap (Slot.strOk hI sl hsl) g sl.id blk w ex pos hdat
    herrx hpos (by cases sl <;> simp [Slot.cap])
  -- the settings and the text the call reads are those of the start state and of the run so far
  rw [show absSet r = (abs r).set from rfl, Slot.abs_get r sl hsl,
    show abs r = sl.mput (abs r0) t from ha, Slot.mput_set, Slot.mget_mput] at h1 h2
  refine ⟨?_, Slot.inv_put hI _ sl hsl h4, ?_⟩
  · rw [Slot.abs_put hI _ sl hsl h4, show abs r = sl.mput (abs r0) t from ha, Slot.mput_mput, h1]
  · rw [← h2]
    rcases h3 with e | e <;> rw [e] <;> rfl

/-- `changed |= …`: `h` is the run after the call, `ch` the flag before it -/
theorem tg_TR.or {sl : Slot} {r0 r : C_librdsparser} {ch ch' : Int} {t : Text} {b b' : Bool}
    (h : tg_TR sl r0 (r, ch') (t, b')) (hc : ch = b2i b) :
    tg_TR sl r0 (r, b2i (bor ch ch' != 0)) (t, b || b') :=
  ⟨h.1, h.2.1, by rw [hc, show ch' = b2i b' from h.2.2, bor_b2i, b2i_ne_zero]⟩

theorem tg_TR.emit {sl : Slot} {r0 r : C_librdsparser} {ch : Int} {t : Text} {b : Bool} (h : tg_TR sl r0 (r, ch) (t, b))
    (log : CLog) (cb : Int) (e : CEvent C_librdsparser) (c : Cb) (k : EvKind)
    (hcb : (cb != 0) = (abs r).registered c) (hev : absEvent e = some ⟨k, (abs r).ud, abs r⟩) :
    tg_Ref log (r, if (ch != 0 && cb != 0) = true then log ++ [e] else log)
      (sl.mput (abs r0) t, if b = true then RDS.emit (sl.mput (abs r0) t) c k else []) := by
  obtain ⟨ha, hI, hc⟩ := h
  refine ⟨ha, ?_, hI⟩
  rw [show ch = b2i b from hc, b2i_ne_zero, ← show abs r = sl.mput (abs r0) t from ha]
  cases b
  · exact (List.append_nil _).symm
  · exact absLog_emit log cb e _ c k hcb hev

def ts_cexCtx : C_librdsparser :=
  let z := C_librdsparser.zero
  let z := { z with ps := ts_blankStr 8 }
  let z := { z with rt := [ts_blankStr 64, ts_blankStr 64] }
  let z := { z with ptyn := ts_blankStr 8 }
  { z with last_rt_flag := -1 }
def ts_cexG : Group := ⟨0, 0, 0x4142, 0, 0, 0, 0, 0⟩

theorem ts_dataOk_zero : DataOk C_rdsparser_buffer_data.zero := by
  unfold DataOk; decide

theorem ts_cexCtx_inv : CInv ts_cexCtx :=
  { used := ts_dataOk_zero, temp := ts_dataOk_zero, ext := Or.inl rfl,
    ps := ts_blankStr_ok 8, rtLen := rfl, rt0 := ts_blankStr_ok 64, rt1 := ts_blankStr_ok 64, ptyn := ts_blankStr_ok 8,
    progLen := rfl, prog := by decide, corrLen := rfl, corr := by decide, lastRt := Or.inl rfl, ud := by decide }

/-- `parser_update_string_refines` is false without `cap ≤ 256`: `position + i` is converted to `uint8_t`.
Capacity 258, position 256: C writes cells 0 and 1, the model 256 and 257. -/
theorem ts_parser_update_string_cap_needed :
    CInv ts_cexCtx ∧ StrOk (ts_blankStr 258) 258 ∧ ts_cexG.Bounded ∧ 256 + 1 < 258 ∧
    absText (c_rdsparser_parser_update_string true ts_cexCtx (ts_blankStr 258) ((0 : Nat) : Int) ((2 : Nat) : Int)
        (dataOf ts_cexG) (errorsOf ts_cexG) ((256 : Nat) : Int)).2 ≠
      (parserUpdate (cfgC true) (absSet ts_cexCtx) (absText (ts_blankStr 258)) .ps ts_cexG.c ts_cexG.eb ts_cexG.ec 256).1 := by
  refine ⟨ts_cexCtx_inv, ts_blankStr_ok 258, by unfold Group.Bounded; decide, by decide, ?_⟩
  decide +kernel

end RDS.C

#print axioms RDS.C.update_single_refines
#print axioms RDS.C.parser_update_string_refines
#print axioms RDS.C.string_clear_refines
#print axioms RDS.C.string_get_available_refines
#print axioms RDS.C.string_get_length_refines
#print axioms RDS.C.ts_parser_update_string_cap_needed
