import RdsProofs.TransGroupsBase
/-!
# RdsProofs.TransGroupsText — `rdsparser_group0_parse` and `rdsparser_group10_parse`

`tg_group0` is a `tg_Step` composition (`TransAbs.lean`) of three stages — TA and MS, the PS characters, in version A the
AF codes — against `Pieces.g0` (`Anatomy.lean`). The PS stage and `tg_group10` are `tg_TR` chains (`TransString.lean`).
-/

namespace RDS.C
open RDS
open RDS.C.TransBits

/-! The model's `group0` is `Pieces.g0`: TA and MS, the PS characters, and in version A the two AF codes. -/

/-- the AF codes; the model tests the version together with the rest, the C before it calls `rdsparser_group0a_parse` -/
theorem tg_group0a (g : Group) :
    tg_Step (fun r log => if (tg_flag g == 0) = true then c_rdsparser_group0a_parse r (dataOf g) (errorsOf g) log else (r, log))
      (fun s => if (!g.versionB && g.eb = 0 && g.ec = 0 && g.c / 256 % 256 != 250) = true then
        seq (fun s => addAf s (g.c / 256 % 256)) (fun s => addAf s (g.c % 256)) s else (s, [])) := by
  have hcond : (tg_flag g == 0 && ((g.eb : Int) == 0 && (g.ec : Int) == 0 && !(((g.c / 256 % 256 : Nat) : Int) == 250))) =
      decide ((!g.versionB && decide (g.eb = 0) && decide (g.ec = 0) && (g.c / 256 % 256 != 250)) = true) := by
    rw [tg_flag_beq, natCast_beq_lit, natCast_beq_lit, natCast_beq_lit, Bool.decide_eq_true, ← Bool.and_assoc,
      ← Bool.and_assoc]
    rfl
  -- the C tests one inside the other
  simp only [c_rdsparser_group0a_parse, group0a_get_af1, group0a_get_af2, tg_err1, tg_err2, Prod.eta, tg_ite_ite_not, tg_ite_ite]
  exact (tg_Step.ite hcond
    (tg_Step.seq (tg_Step.addAf (g.c / 256 % 256) (Nat.mod_lt _ (by decide)))
      (tg_Step.addAf (g.c % 256) (Nat.mod_lt _ (by decide))))
    tg_Step.skip :)

/-- the PS part of the translated `rdsparser_group0_parse`, copied by hand so that it can be a stage of its own;
`tg_group0_shape` ties it -/
def tg_cPs (u : Bool) (rds : C_librdsparser) (data errors : List Int) (log : CLog) : C_librdsparser × CLog :=
  let position : Int := u8 (2 * c_rdsparser_group0_get_ps_pos data)
  let t4 := c_rdsparser_parser_update_string u rds rds.ps 0 3 data errors position
  let rds : C_librdsparser := { rds with ps := t4.2 }
  let changed : Int := t4.1
  let log : CLog :=
    if changed != 0 && rds.callback_ps != 0 then
      log ++ [⟨"ps", [rds.user_data], rds⟩]
    else
      log
  (rds, log)

theorem tg_ps_stage (u : Bool) (g : Group) :
    tg_Step (fun r log => tg_cPs u r (dataOf g) (errorsOf g) log) (psUpd (cfgC u) g) := by
  have hpos : u8 (2 * c_rdsparser_group0_get_ps_pos (dataOf g)) = ((2 * (g.b % 4) : Nat) : Int) := by
    rw [group0_get_ps_pos]; exact u8_mul_natCast 2 _ (by omega)
  exact fun r log hI =>
    ((tg_TR.init .ps r hI (b := false) rfl).step u trivial g 3 g.d g.ed _ _ rfl rfl hpos (by show _ < 8; omega)).emit
      log _ _ .ps .ps rfl rfl

theorem tg_group0_shape (u : Bool) (r : C_librdsparser) (data errors : List Int) (flag : Int) (log : CLog) :
    c_rdsparser_group0_parse u r data errors flag log =
      let t2 := if errors.getD 1 0 == 0 then
          let t1 := c_rdsparser_set_ta r (c_rdsparser_group0_get_ta data) log
          c_rdsparser_set_ms t1.1 (c_rdsparser_group0_get_ms data) t1.2
        else (r, log)
      let t3 := tg_cPs u t2.1 data errors t2.2
      if flag == 0 then c_rdsparser_group0a_parse t3.1 data errors t3.2 else t3 := by
  -- not `rfl`, which is very slow to elaborate here: the right side leaves out the pairs `(t.1, t.2)` that end each block of the
  -- translation, and the elaborator meets such a pair once per component at every nesting level (`TransAbs.lean`)
  simp only [c_rdsparser_group0_parse, tg_cPs, Prod.eta]

theorem tg_group0 (u : Bool) (r : C_librdsparser) (hI : CInv r) (g : Group) (hg : g.Bounded) (log : CLog) :
    tg_Ref log (c_rdsparser_group0_parse u r (dataOf g) (errorsOf g) (tg_flag g) log) (group0 (cfgC u) (abs r) g) := by
  rw [group0_eq_pieces, tg_group0_shape, group0_get_ta, group0_get_ms]
  exact (tg_Step.seq (tg_Step.seq
    (tg_Step.ite (natCast_beq_lit g.eb 0)
      (tg_Step.seq (tg_Step.setField .ta (g.b / 16 % 2) (Nat.mod_lt _ (by decide)))
        (tg_Step.setField .ms (g.b / 8 % 2) (Nat.mod_lt _ (by decide))))
      tg_Step.skip)
    (tg_ps_stage u g)) (tg_group0a g) r log hI :)

theorem tg_group10 (u : Bool) (r : C_librdsparser) (hI : CInv r) (g : Group) (log : CLog) :
    tg_Ref log (c_rdsparser_group10_parse u r (dataOf g) (errorsOf g) (tg_flag g) log) (group10 (cfgC u) (abs r) g) := by
  have hp1 : u8 (4 * c_rdsparser_group10a_get_ptyn_pos (dataOf g)) = ((4 * (g.b % 2) : Nat) : Int) := by
    rw [group10a_get_ptyn_pos]; exact u8_mul_natCast 4 _ (by omega)
  have hp2 : u8 (u8 (4 * c_rdsparser_group10a_get_ptyn_pos (dataOf g)) + 2) = ((4 * (g.b % 2) + 2 : Nat) : Int) := by
    rw [hp1]; exact u8_add_natCast _ 2 (by omega)
  -- blocks C and D into the PTYN buffer
  have h1 := ((tg_TR.init .ptyn r hI (b := false) rfl).step u trivial g 2 g.c g.ec _ _ rfl rfl hp1 (by show _ < 8; omega)).or
    (ch := 0) (b := false) rfl
  have h2 := (h1.step u trivial g 3 g.d g.ed _ _ rfl rfl hp2 (by show _ < 8; omega)).or h1.2.2
  simp only [c_rdsparser_group10_parse, Prod.eta, tg_flag_beq]
  unfold c_rdsparser_group10a_parse
  exact tg_Ref_ite Bool.decide_eq_true.symm (fun _ => h2.emit log _ _ .ptyn .ptyn rfl rfl)
    (fun _ => tg_Ref_refl r log hI)

end RDS.C

#print axioms RDS.C.tg_group0
#print axioms RDS.C.tg_group10
