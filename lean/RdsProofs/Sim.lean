import RdsProofs.Anatomy
/-!
# RdsProofs.Sim — two runs of the decoder in step: one lifting lemma for every relation

`Sim R EL hn hw`: from `R`-related states the handlers `hn`, `hw` reach `R`-related states and emit `EL`-related
events (`n`, `w` name the two runs throughout; in C20 they are the narrow and the wide build). `Sim` is closed under
the ways `Pieces.process` puts pieces together (sequence, a test on the group), so `Sim` of the whole follows from
`Sim` of the seven pieces (`Leaves`, `Leaves.process`, `Leaves.sim`). What `R` is plays no role in that step; the
properties differ only in their pieces. A property of one run is the case where `R` and `EL` ignore one argument.

The rest supplies pieces from what a relation preserves: `BufRel` for `setField`, `addAf` and the country lookup,
`Sim.group4`, `Sim.upd` for a text update with its notification, `Sim.g2cut` / `Sim.group2` for group 2 from its last
part; `Sim.step`, `Sim.runFrom` take a relation through one call and through a history.
-/
namespace RDS

def Sim {σ τ : Type} (R : σ → τ → Prop) (EL : List Event → List Event → Prop) (hn : σ → σ × List Event)
    (hw : τ → τ × List Event) : Prop :=
  ∀ sn sw, R sn sw → R (hn sn).1 (hw sw).1 ∧ EL (hn sn).2 (hw sw).2

structure EvRel (EL : List Event → List Event → Prop) : Prop where
  nil : EL [] []
  app : ∀ {a a' b b'}, EL a a' → EL b b' → EL (a ++ b) (a' ++ b')

theorem EvRel.true : EvRel (fun _ _ => True) := ⟨trivial, fun _ _ => trivial⟩

section
variable {σ τ : Type} {R : σ → τ → Prop} {EL : List Event → List Event → Prop}

theorem Sim.id (ev : EvRel EL) : Sim R EL (fun s => (s, [])) (fun s => (s, [])) :=
  fun _ _ h => ⟨h, ev.nil⟩

theorem Sim.seq (ev : EvRel EL) {h1n h2n : σ → σ × List Event} {h1w h2w : τ → τ × List Event}
    (p1 : Sim R EL h1n h1w) (p2 : Sim R EL h2n h2w) : Sim R EL (seq h1n h2n) (seq h1w h2w) := by
  intro sn sw h
  have a := p1 sn sw h
  have b := p2 _ _ a.1
  exact ⟨b.1, ev.app a.2 b.2⟩

theorem Sim.ite {h1n h2n : σ → σ × List Event} {h1w h2w : τ → τ × List Event} (p : Prop) [Decidable p]
    (p1 : p → Sim R EL h1n h1w) (p2 : ¬ p → Sim R EL h2n h2w) :
    Sim R EL (fun s => if p then h1n s else h2n s) (fun s => if p then h1w s else h2w s) := by
  by_cases hp : p
  · simp only [hp, if_true]; exact p1 hp
  · simp only [hp, if_false]; exact p2 hp

structure Leaves (R : σ → τ → Prop) (EL : List Event → List Event → Prop) (pn : Pieces σ) (pw : Pieces τ)
    (g : Group) : Prop where
  ev : EvRel EL
  -- asked only of the calls that occur for `g`: some properties hold of no others
  sf : ∀ f v, SfOcc g f v → Sim R EL (pn.sf f v) (pw.sf f v)
  af : ∀ v, AfOcc g v → Sim R EL (pn.af v) (pw.af v)
  cty : g.type = 1 → (!g.versionB && g.eb = 0 && g.ec = 0 && g.c / 4096 % 8 = 0) = true → Sim R EL pn.cty pw.cty
  ps : g.type = 0 → Sim R EL pn.ps pw.ps
  g2 : g.type = 2 → Sim R EL pn.g2 pw.g2
  g4 : g.type = 4 → Sim R EL pn.g4 pw.g4
  g10 : g.type = 10 → Sim R EL pn.g10 pw.g10

variable {pn : Pieces σ} {pw : Pieces τ} {g : Group}

theorem Leaves.common (L : Leaves R EL pn pw g) : Sim R EL (pn.common g) (pw.common g) :=
  .seq L.ev (.ite _ (fun ha => L.sf _ _ (.pi ha)) fun _ => .id L.ev)
    (.ite _ (fun hb => .seq L.ev (L.sf _ _ (.pty hb)) (L.sf _ _ (.tp hb))) fun _ => .id L.ev)

theorem Leaves.g0 (L : Leaves R EL pn pw g) (h0 : g.type = 0) : Sim R EL (pn.g0 g) (pw.g0 g) :=
  .seq L.ev (.seq L.ev
      (.ite _ (fun hb => .seq L.ev (L.sf _ _ (.ta h0 hb)) (L.sf _ _ (.ms h0 hb))) fun _ => .id L.ev) (L.ps h0))
    (.ite _ (fun hg => .seq L.ev (L.af _ (.hi h0 hg)) (L.af _ (.lo h0 hg))) fun _ => .id L.ev)

theorem Leaves.g1 (L : Leaves R EL pn pw g) (h1 : g.type = 1) : Sim R EL (pn.g1 g) (pw.g1 g) :=
  .ite _ (fun hg => .seq L.ev (L.sf .ecc _ (.ecc h1 hg)) (L.cty h1 hg)) fun _ => .id L.ev

theorem Leaves.dispatch (L : Leaves R EL pn pw g) : Sim R EL (pn.dispatch g) (pw.dispatch g) :=
  .ite _ L.g0 fun _ => .ite _ L.g1 fun _ => .ite _ L.g2 fun _ => .ite _ L.g4 fun _ => .ite _ L.g10 fun _ => .id L.ev

theorem Leaves.process (L : Leaves R EL pn pw g) : Sim R EL (pn.process g) (pw.process g) :=
  .seq L.ev L.common L.dispatch

end

section
variable {R : State → State → Prop} {EL : List Event → List Event → Prop}

theorem Leaves.sim {cfgn cfgw : Cfg} {g : Group} (L : Leaves R EL (pieces cfgn g) (pieces cfgw g) g) :
    Sim R EL (fun s => RDS.process cfgn s g) (fun s => RDS.process cfgw s g) := by
  intro sn sw h
  show R (RDS.process cfgn sn g).1 (RDS.process cfgw sw g).1 ∧ EL (RDS.process cfgn sn g).2 (RDS.process cfgw sw g).2
  rw [process_eq_pieces, process_eq_pieces]
  exact L.process sn sw h

/-! ## the pieces that touch only the two scalar buffers

`setField` and `addAf` read the buffers and the extended-check flag, write the buffers, and notify with a non-text
callback. A relation under which related states hold the same buffers and flag, which survives putting the same new
buffers into both states, and under which those callbacks are related, has these pieces (and the country lookup) in
step. -/

structure BufRel (R : State → State → Prop) (EL : List Event → List Event → Prop) : Prop where
  ev : EvRel EL
  used : ∀ {sn sw}, R sn sw → sn.used = sw.used
  temp : ∀ {sn sw}, R sn sw → sn.temp = sw.temp
  ext : ∀ {sn sw}, R sn sw → sn.set.ext = sw.set.ext
  put : ∀ {sn sw} (x y : Scalars), R sn sw → R { sn with used := x, temp := y } { sw with used := x, temp := y }
  emitF : ∀ {sn sw} (f : Fld), R sn sw → EL (emit sn f.ev.cb f.ev) (emit sw f.ev.cb f.ev)
  emitAf : ∀ {sn sw} (khz : Nat), R sn sw → EL (emit sn .af (.af khz)) (emit sw .af (.af khz))

theorem BufRel.setField (B : BufRel R EL) (f : Fld) (v : Int) :
    Sim R EL (fun s => RDS.setField s f v) (fun s => RDS.setField s f v) := by
  intro sn sw h
  have hb : bufUpdate sn.set.ext (sn.used.get f) (sn.temp.get f) v =
      bufUpdate sw.set.ext (sw.used.get f) (sw.temp.get f) v := by rw [B.used h, B.temp h, B.ext h]
  have hR : R (RDS.setField sn f v).1 (RDS.setField sw f v).1 := by
    unfold RDS.setField
    rw [hb, B.used h, B.temp h]
    exact B.put _ _ h
  refine ⟨hR, ?_⟩
  show EL (RDS.setField sn f v).2 (RDS.setField sw f v).2
  rw [setField_snd sn, setField_snd sw, hb]
  cases (bufUpdate sw.set.ext (sw.used.get f) (sw.temp.get f) v).2.2
  · exact B.ev.nil
  · exact B.emitF f hR

/-- the country piece: both runs look the same PI up, in tables that agree -/
theorem BufRel.cty (B : BufRel R EL) {cfgn cfgw : Cfg} (g : Group)
    (hecc : ∀ pi e, eccLookup cfgn pi e = eccLookup cfgw pi e) : Sim R EL (pieces cfgn g).cty (pieces cfgw g).cty := by
  intro sn sw h
  show R (RDS.setField sn .country (eccLookup cfgn sn.used.pi _)).1 (RDS.setField sw .country _).1 ∧
    EL (RDS.setField sn .country (eccLookup cfgn sn.used.pi _)).2 (RDS.setField sw .country _).2
  rw [B.used h, hecc]
  exact B.setField .country _ sn sw h

theorem BufRel.addAf (B : BufRel R EL) (v : Nat) : Sim R EL (fun s => RDS.addAf s v) (fun s => RDS.addAf s v) := by
  intro sn sw h
  show R (RDS.addAf sn v).1 (RDS.addAf sw v).1 ∧ EL (RDS.addAf sn v).2 (RDS.addAf sw v).2
  have hu := B.used h
  have ht := B.temp h
  have he := B.ext h
  by_cases h1 : afGet sw.used.af v = true
  · rw [addAf_known sn v (hu ▸ h1), addAf_known sw v h1]
    exact ⟨h, B.ev.nil⟩
  · by_cases h2 : (sw.set.ext && !afGet sw.temp.af v) = true
    · rw [addAf_candidate sn v (hu ▸ h1) (by rw [he, ht]; exact h2), addAf_candidate sw v h1 h2, ht]
      exact ⟨hu ▸ B.put sn.used _ h, B.ev.nil⟩
    · rw [addAf_listed sn v (hu ▸ h1) (by rw [he, ht]; exact h2), addAf_listed sw v h1 h2, hu]
      have hR : R { sn with used := { sw.used with af := (afSet sw.used.af v).1 } }
          { sw with used := { sw.used with af := (afSet sw.used.af v).1 } } := ht ▸ B.put _ sn.temp h
      refine ⟨hR, ?_⟩
      cases (afSet sw.used.af v).2
      · exact B.ev.nil
      · exact B.emitAf _ hR

theorem Sim.group4 (ev : EvRel EL) (g : Group)
    (hemit : ∀ sn sw (v : CtVal), R sn sw → EL (emit sn .ct (.ct v)) (emit sw .ct (.ct v))) :
    Sim R EL (fun s => RDS.group4 s g) (fun s => RDS.group4 s g) := by
  intro sn sw h
  show R (RDS.group4 sn g).1 (RDS.group4 sw g).1 ∧ EL (RDS.group4 sn g).2 (RDS.group4 sw g).2
  rw [group4_fst, group4_fst, group4_snd, group4_snd]
  refine ⟨h, ?_⟩
  cases g4ok g
  · exact ev.nil
  · cases ctInit (ctFields g).1 (ctFields g).2.1 (ctFields g).2.2.1 (ctFields g).2.2.2 with
    | none => exact ev.nil
    | some v => exact hemit sn sw v h

theorem Sim.upd (ev : EvRel EL) {un uw : State → State} {fn fw : State → Bool} (c : Cb) (k : EvKind)
    (hupd : ∀ sn sw, R sn sw → R (un sn) (uw sw)) (hfire : ∀ sn sw, R sn sw → fn sn = fw sw)
    (hemit : ∀ sn sw, R sn sw → EL (emit sn c k) (emit sw c k)) :
    Sim R EL (fun s => (un s, if fn s then emit (un s) c k else [])) (fun s => (uw s, if fw s then emit (uw s) c k else [])) := by
  intro sn sw h
  refine ⟨hupd sn sw h, ?_⟩
  show EL (if fn sn then emit (un sn) c k else []) (if fw sw then emit (uw sw) c k else [])
  rw [hfire sn sw h]
  cases fw sw
  · exact ev.nil
  · exact hemit _ _ (hupd sn sw h)

/-- `tn`, `tw` are the last part of the group-2 handler (`g2tail`, or `g2tailH` in the nested-call model). The other
hypotheses are what the part before it needs: the toggle detection reads the last flag and whether the addressed text
has content, may discard that text and move the flag; the guard reads the flag again. -/
theorem Sim.g2cut (ev : EvRel EL) (g : Group) (tn tw : State → Bool → State × List Event)
    (hlast : ∀ sn sw, R sn sw → sn.lastRt = sw.lastRt)
    (havail : ∀ sn sw, R sn sw → getAvailable (sn.rt (g.b / 16 % 2)) = getAvailable (sw.rt (g.b / 16 % 2)))
    (hclear : ∀ sn sw, R sn sw → R (sn.setRt (g.b / 16 % 2) (sn.rt (g.b / 16 % 2)).cleared)
      (sw.setRt (g.b / 16 % 2) (sw.rt (g.b / 16 % 2)).cleared))
    (hflag : ∀ sn sw (v : Int), R sn sw → R { sn with lastRt := v } { sw with lastRt := v })
    (htail : ∀ clr, Sim R EL (fun s2 => tn s2 clr) (fun s2 => tw s2 clr)) :
    Sim R EL
      (fun s => if g.eb != 0 && ((g.b / 16 % 2 : Nat) : Int) != (g2s2 s g).lastRt && (g2s2 s g).lastRt != -1
        then (g2s2 s g, []) else tn (g2s2 s g) (g2clr s g))
      (fun s => if g.eb != 0 && ((g.b / 16 % 2 : Nat) : Int) != (g2s2 s g).lastRt && (g2s2 s g).lastRt != -1
        then (g2s2 s g, []) else tw (g2s2 s g) (g2clr s g)) := by
  intro sn sw h
  have hclr : g2clr sn g = g2clr sw g := by
    show (decide (g.eb = 0) && (((g.b / 16 % 2 : Nat) : Int) != sn.lastRt) && sn.lastRt != -1 &&
      getAvailable (sn.rt (g.b / 16 % 2))) = _
    rw [hlast sn sw h, havail sn sw h]
    rfl
  have hpre : R (g2s2 sn g) (g2s2 sw g) := by
    have e : ∀ b1 b2, R (g2step g b1 b2 sn) (g2step g b1 b2 sw) := by
      intro b1 b2
      cases b1 <;> cases b2
      · exact h
      · exact hflag _ _ _ h
      · exact hclear sn sw h
      · exact hflag _ _ _ (hclear sn sw h)
    unfold g2s2
    rw [hlast sn sw h, hclr]
    exact e _ _
  simp only []
  rw [hlast _ _ hpre, ← hclr]
  generalize (g.eb != 0 && ((g.b / 16 % 2 : Nat) : Int) != (g2s2 sw g).lastRt && (g2s2 sw g).lastRt != -1) = guard
  cases guard
  · exact htail _ _ _ hpre
  · exact ⟨hpre, ev.nil⟩

theorem Sim.group2 (ev : EvRel EL) {cfgn cfgw : Cfg} (g : Group)
    (hlast : ∀ sn sw, R sn sw → sn.lastRt = sw.lastRt)
    (havail : ∀ sn sw, R sn sw → getAvailable (sn.rt (g.b / 16 % 2)) = getAvailable (sw.rt (g.b / 16 % 2)))
    (hclear : ∀ sn sw, R sn sw → R (sn.setRt (g.b / 16 % 2) (sn.rt (g.b / 16 % 2)).cleared)
      (sw.setRt (g.b / 16 % 2) (sw.rt (g.b / 16 % 2)).cleared))
    (hflag : ∀ sn sw (v : Int), R sn sw → R { sn with lastRt := v } { sw with lastRt := v })
    (htail : ∀ clr, Sim R EL (fun s2 => g2tail cfgn s2 g clr) (fun s2 => g2tail cfgw s2 g clr)) :
    Sim R EL (fun s => RDS.group2 cfgn s g) (fun s => RDS.group2 cfgw s g) :=
  Sim.g2cut ev g (fun s2 clr => g2tail cfgn s2 g clr) (fun s2 clr => g2tail cfgw s2 g clr) hlast havail hclear hflag htail

theorem Sim.step (ev : EvRel EL) {cfgn cfgw : Cfg} (op : Op)
    (hproc : ∀ g, op.group? = some g → Sim R EL (fun s => process cfgn s g) (fun s => process cfgw s g))
    (hinit : R initState initState) (hclear : ∀ sn sw, R sn sw → R (clearState sn) (clearState sw))
    (hobs : ∀ sn sw, R sn sw → R { sn with set := op.onSet sn.set, cbs := op.onCbs sn.cbs, ud := op.onUd sn.ud }
      { sw with set := op.onSet sw.set, cbs := op.onCbs sw.cbs, ud := op.onUd sw.ud }) (sn sw : State) (h : R sn sw) :
    R (RDS.step cfgn sn op).1 (RDS.step cfgw sw op).1 ∧ (RDS.step cfgn sn op).2.2 = (RDS.step cfgw sw op).2.2 ∧
      EL (RDS.step cfgn sn op).2.1 (RDS.step cfgw sw op).2.1 := by
  rcases op.kind_cases with rfl | rfl | ⟨g, hg⟩ | ⟨hg, h1, h2⟩
  · exact ⟨hinit, rfl, ev.nil⟩
  · exact ⟨hclear sn sw h, rfl, ev.nil⟩
  · rw [step_group cfgn sn hg, step_group cfgw sw hg]
    exact ⟨(hproc g hg sn sw h).1, rfl, (hproc g hg sn sw h).2⟩
  · rw [step_nogroup_evs cfgn sn hg, step_nogroup_evs cfgw sw hg, step_quiet cfgn sn hg h1 h2, step_quiet cfgw sw hg h1 h2]
    exact ⟨hobs sn sw h, step_nogroup_ret cfgn cfgw sn sw hg, ev.nil⟩

theorem Sim.runFrom {cfgn cfgw : Cfg} (ops : List Op)
    (hstep : ∀ op ∈ ops, ∀ sn sw, R sn sw → R (RDS.step cfgn sn op).1 (RDS.step cfgw sw op).1) :
    ∀ sn sw, R sn sw → R (RDS.runFrom cfgn sn ops) (RDS.runFrom cfgw sw ops) := by
  induction ops with
  | nil => intro sn sw h; exact h
  | cons op ops ih =>
    intro sn sw h
    exact ih (fun o ho => hstep o (List.mem_cons_of_mem _ ho)) _ _ (hstep op (List.mem_cons_self ..) sn sw h)

end

end RDS
