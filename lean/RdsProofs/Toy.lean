import RdsModel
/-!
# RdsProofs.Toy — configurations and groups that the non-vacuity examples of several files share
-/
namespace RDS

def ac3_cfg0 : Cfg := ⟨true, fun b => b, fun _ _ => 0⟩

/-- a toy configuration whose ECC table depends on both arguments -/
def ac09_cfg : Cfg := ⟨true, fun b => b, fun n e => 16 * n + e % 16⟩

def ac09_gA : Group := ⟨0x1234, 0x0408 ||| (5 <<< 5), 0x5A01, 0x4142, 0, 0, 0, 0⟩   -- 0A, PI 0x1234, AF 0x5A, 0x01
def ac09_gB : Group := ⟨0x5678, 0x0000 ||| (9 <<< 5), 0x5A01, 0x4142, 0, 0, 0, 0⟩   -- 0A, PI 0x5678
def ac09_gE : Group := ⟨0x1234, 0x1000, 0x00E3, 0, 0, 0, 0, 0⟩                       -- 1A variant 0, ECC 0xE3
def ac09_gE' : Group := ⟨0x5678, 0x1000, 0x00E3, 0, 0, 0, 0, 0⟩                      -- 1A variant 0, other PI

end RDS
