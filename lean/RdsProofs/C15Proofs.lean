import RdsModel
import RdsSpec.Monitors
import RdsSpec.Statements
import RdsProofs.Sim
/-!
# C15: observers are pure

`c15_withObs s cbs ud` replaces the observer table (registrations and user data) of a state. A run on `c15_withObs s T u`
is in step (`Sim`, RdsProofs/Sim.lean) with the run on `s` for the relation `c15_R` ("the second state is the first with
the table replaced") and the event relation `c15_EvGood`: the events are those of the all-listening run filtered by
registration (compared by kind and erased snapshot) and each carries the current user data. The pieces of the decoder are
in step because their state effect commutes with `c15_withObs` (`c15_Comm`) and their decisions do not look at the table
(`c15_ObsInv`); `Leaves.sim` does the rest. One call, delivered group or not, is `Sim.step` for the relation "same
erasure" (`c15_step_erase_congr`).
-/
namespace RDS

def c15_withObs (s : State) (cbs : List Bool) (ud : Nat) : State := { s with cbs := cbs, ud := ud }

section c15_withObs
variable (s : State) (c : List Bool) (u : Nat)
@[simp] theorem c15_withObs_used : (c15_withObs s c u).used = s.used := rfl
@[simp] theorem c15_withObs_temp : (c15_withObs s c u).temp = s.temp := rfl
@[simp] theorem c15_withObs_set : (c15_withObs s c u).set = s.set := rfl
@[simp] theorem c15_withObs_ps : (c15_withObs s c u).ps = s.ps := rfl
@[simp] theorem c15_withObs_rt0 : (c15_withObs s c u).rt0 = s.rt0 := rfl
@[simp] theorem c15_withObs_rt1 : (c15_withObs s c u).rt1 = s.rt1 := rfl
@[simp] theorem c15_withObs_ptyn : (c15_withObs s c u).ptyn = s.ptyn := rfl
@[simp] theorem c15_withObs_termPs : (c15_withObs s c u).termPs = s.termPs := rfl
@[simp] theorem c15_withObs_termRt0 : (c15_withObs s c u).termRt0 = s.termRt0 := rfl
@[simp] theorem c15_withObs_termRt1 : (c15_withObs s c u).termRt1 = s.termRt1 := rfl
@[simp] theorem c15_withObs_termPtyn : (c15_withObs s c u).termPtyn = s.termPtyn := rfl
@[simp] theorem c15_withObs_lastRt : (c15_withObs s c u).lastRt = s.lastRt := rfl
@[simp] theorem c15_withObs_cbs : (c15_withObs s c u).cbs = c := rfl
@[simp] theorem c15_withObs_ud : (c15_withObs s c u).ud = u := rfl
@[simp] theorem c15_withObs_rt (fl : Nat) : (c15_withObs s c u).rt fl = s.rt fl := rfl
@[simp] theorem c15_withObs_withObs (c' : List Bool) (u' : Nat) :
    c15_withObs (c15_withObs s c u) c' u' = c15_withObs s c' u' := rfl
theorem c15_withObs_self : c15_withObs s s.cbs s.ud = s := rfl
theorem c15_listenAll_eq : listenAll s = c15_withObs s (List.replicate 12 true) s.ud := rfl
@[simp] theorem c15_erase_withObs : erase (c15_withObs s c u) = erase s := rfl
@[simp] theorem c15_erase_erase : erase (erase s) = erase s := rfl
theorem c15_withObs_setRt (fl : Nat) (t : Text) :
    (c15_withObs s c u).setRt fl t = c15_withObs (s.setRt fl t) c u := by
  unfold State.setRt; split <;> rfl
end c15_withObs

/-- what C15 compares of an event: which callback, with which arguments, showing which getter-visible state -/
def c15_evView (e : Event) : EvKind × State := (e.kind, erase e.snap)

def c15_regOf (cbs : List Bool) (c : Cb) : Bool := cbs.getD c.idx false

theorem c15_registered_eq (s : State) (c : Cb) : s.registered c = c15_regOf s.cbs c := rfl

def c15_AllReg (T : List Bool) : Prop := ∀ c : Cb, c15_regOf T c = true

theorem c15_allReg_true : c15_AllReg (List.replicate 12 true) := by
  intro c; cases c <;> rfl

/-- `evs` (run with table `cbs`, user data `ud`) against `evsAll` (the all-listening run) -/
def c15_EvGood (cbs : List Bool) (ud : Nat) (evs evsAll : List Event) : Prop :=
  evs.map c15_evView = (evsAll.filter (fun e => c15_regOf cbs e.kind.cb)).map c15_evView ∧
  ∀ e ∈ evs, e.ud = ud ∧ c15_regOf cbs e.kind.cb = true

theorem c15_evGood_nil (cbs : List Bool) (ud : Nat) : c15_EvGood cbs ud [] [] :=
  ⟨rfl, fun _ h => by cases h⟩

theorem c15_evGood_append {cbs : List Bool} {ud : Nat} {a a' b b' : List Event}
    (h1 : c15_EvGood cbs ud a a') (h2 : c15_EvGood cbs ud b b') : c15_EvGood cbs ud (a ++ b) (a' ++ b') := by
  refine ⟨?_, ?_⟩
  · rw [List.map_append, List.filter_append, List.map_append, h1.1, h2.1]
  · intro e he
    rcases List.mem_append.mp he with h | h
    · exact h1.2 e h
    · exact h2.2 e h

theorem c15_evGood_emit (s : State) (k : EvKind) (T : List Bool) (u : Nat) (hT : c15_AllReg T) :
    c15_EvGood s.cbs s.ud (emit s k.cb k) (emit (c15_withObs s T u) k.cb k) := by
  have hall : (c15_withObs s T u).registered k.cb = true := hT k.cb
  unfold emit
  rw [hall, if_pos rfl]
  by_cases hr : s.registered k.cb = true
  · have hr' : c15_regOf s.cbs k.cb = true := hr
    rw [if_pos hr]
    refine ⟨?_, ?_⟩
    · simp only [List.filter_cons, List.filter_nil, hr', if_true, List.map_cons, List.map_nil, c15_evView,
        c15_erase_withObs]
    · intro e he
      simp only [List.mem_singleton] at he
      subst he
      exact ⟨rfl, hr'⟩
  · have hr' : ¬ c15_regOf s.cbs k.cb = true := hr
    rw [if_neg hr]
    refine ⟨?_, fun _ h => by cases h⟩
    simp only [List.filter_cons, List.filter_nil, hr', if_false, List.map_nil, Bool.false_eq_true]

def c15_ObsInv {α : Type} (v : State → α) : Prop := ∀ s c u, v (c15_withObs s c u) = v s

def c15_Comm (f : State → State) : Prop := ∀ s c u, f (c15_withObs s c u) = c15_withObs (f s) c u

theorem c15_Comm.frame {f : State → State} (hf : c15_Comm f) (s : State) : (f s).cbs = s.cbs ∧ (f s).ud = s.ud := by
  have := hf s s.cbs s.ud
  rw [c15_withObs_self] at this
  exact ⟨by rw [this]; rfl, by rw [this]; rfl⟩

theorem erase_eq_withObs {s t : State} (h : erase s = erase t) : s = c15_withObs t s.cbs s.ud := by
  cases s; cases t; simp only [erase, State.mk.injEq] at h; simp only [c15_withObs, State.mk.injEq]; simp_all

theorem c15_Comm.erase_congr {f : State → State} (hf : c15_Comm f) {s t : State} (h : erase s = erase t) :
    erase (f s) = erase (f t) := by
  rw [erase_eq_withObs h, hf]; rfl

theorem c15_ObsInv.erase_congr {α : Type} {v : State → α} (hv : c15_ObsInv v) {s t : State} (h : erase s = erase t) :
    v s = v t := by
  rw [erase_eq_withObs h, hv]

/-- `sw` is `sn` with the observer table replaced by `(T, u)`; `sn`'s own table is `(c0, u0)` -/
def c15_R (c0 : List Bool) (u0 : Nat) (T : List Bool) (u : Nat) (sn sw : State) : Prop :=
  sn.cbs = c0 ∧ sn.ud = u0 ∧ sw = c15_withObs sn T u

def c15_EL (c0 : List Bool) (u0 : Nat) (T : List Bool) (a b : List Event) : Prop :=
  c15_AllReg T → c15_EvGood c0 u0 a b

section
variable {c0 : List Bool} {u0 : Nat} {T : List Bool} {u : Nat}

theorem c15_evRel : EvRel (c15_EL c0 u0 T) :=
  ⟨fun _ => c15_evGood_nil _ _, fun h1 h2 hT => c15_evGood_append (h1 hT) (h2 hT)⟩

theorem c15_R.upd {sn sw : State} (h : c15_R c0 u0 T u sn sw) {f : State → State} (hf : c15_Comm f) :
    c15_R c0 u0 T u (f sn) (f sw) := by
  obtain ⟨rfl, rfl, rfl⟩ := h
  exact ⟨(hf.frame sn).1, (hf.frame sn).2, hf sn T u⟩

theorem c15_R.inv {sn sw : State} (h : c15_R c0 u0 T u sn sw) {α : Type} {v : State → α} (hv : c15_ObsInv v) :
    v sn = v sw := by
  obtain ⟨_, _, rfl⟩ := h
  exact (hv sn T u).symm

theorem c15_R.emit {sn sw : State} (h : c15_R c0 u0 T u sn sw) (k : EvKind) :
    c15_EL c0 u0 T (emit sn k.cb k) (emit sw k.cb k) := by
  obtain ⟨rfl, rfl, rfl⟩ := h
  exact fun hT => c15_evGood_emit sn k T u hT

theorem c15_sim_upd (upd : State → State) (fire : State → Bool) (k : EvKind) (hupd : c15_Comm upd)
    (hfire : c15_ObsInv fire) :
    Sim (c15_R c0 u0 T u) (c15_EL c0 u0 T) (fun s => (upd s, if fire s then emit (upd s) k.cb k else []))
      (fun s => (upd s, if fire s then emit (upd s) k.cb k else [])) :=
  .upd c15_evRel k.cb k (fun _ _ h => h.upd hupd) (fun _ _ h => h.inv hfire) (fun _ _ h => h.emit k)

theorem c15_bufRel : BufRel (c15_R c0 u0 T u) (c15_EL c0 u0 T) where
  ev := c15_evRel
  used := fun h => h.inv (v := State.used) (fun _ _ _ => rfl)
  temp := fun h => h.inv (v := State.temp) (fun _ _ _ => rfl)
  ext := fun h => h.inv (v := fun s => s.set.ext) (fun _ _ _ => rfl)
  put := fun x y h => h.upd (f := fun s => { s with used := x, temp := y }) (fun _ _ _ => rfl)
  emitF := fun f h => h.emit f.ev
  emitAf := fun khz h => h.emit (.af khz)

theorem c15_sim_group10 (cfg : Cfg) (g : Group) :
    Sim (c15_R c0 u0 T u) (c15_EL c0 u0 T) (fun s => group10 cfg s g) (fun s => group10 cfg s g) :=
  -- the shape of `group10_eq`
  .ite (!g.versionB) (fun _ => c15_sim_upd (fun s => { s with ptyn := (g10u cfg s g).2.1 })
    (fun s => (g10u cfg s g).1.2 || (g10u cfg s g).2.2) .ptyn (fun _ _ _ => rfl) (fun _ _ _ => rfl)) fun _ => .id c15_evRel

theorem c15_sim_group2 (cfg : Cfg) (g : Group) :
    Sim (c15_R c0 u0 T u) (c15_EL c0 u0 T) (fun s => group2 cfg s g) (fun s => group2 cfg s g) :=
  .group2 c15_evRel g (fun _ _ h => h.inv (v := State.lastRt) (fun _ _ _ => rfl))
    (fun _ _ h => h.inv (v := fun s => getAvailable (s.rt (g.b / 16 % 2))) (fun _ _ _ => rfl))
    (fun _ _ h => h.upd (f := fun s => s.setRt (g.b / 16 % 2) (s.rt (g.b / 16 % 2)).cleared)
      (fun s c u => c15_withObs_setRt s c u _ _))
    (fun _ _ v h => h.upd (f := fun s => { s with lastRt := v }) (fun _ _ _ => rfl))
    fun clr => c15_sim_upd (fun s2 => s2.setRt (g.b / 16 % 2) (g2u cfg s2 g).2.1)
      (fun s2 => clr || (g2u cfg s2 g).1.2 || (g2u cfg s2 g).2.2) (.rt (g.b / 16 % 2))
      (fun s c u => c15_withObs_setRt s c u _ _) (fun _ _ _ => rfl)

theorem c15_leaves (cfg : Cfg) (g : Group) : Leaves (c15_R c0 u0 T u) (c15_EL c0 u0 T) (pieces cfg g) (pieces cfg g) g where
  ev := c15_evRel
  sf := fun f v _ => c15_bufRel.setField f v
  af := fun v _ => c15_bufRel.addAf v
  cty := fun _ _ => c15_bufRel.cty g fun _ _ => rfl
  ps := fun _ => c15_sim_upd (fun s => { s with ps := (g0u cfg s g).1 }) (fun s => (g0u cfg s g).2) .ps
    (fun _ _ _ => rfl) (fun _ _ _ => rfl)
  g2 := fun _ => c15_sim_group2 cfg g
  g4 := fun _ => .group4 c15_evRel g fun _ _ v h => h.emit (.ct v)
  g10 := fun _ => c15_sim_group10 cfg g

theorem c15_sim_process (cfg : Cfg) (g : Group) :
    Sim (c15_R c0 u0 T u) (c15_EL c0 u0 T) (fun s => process cfg s g) (fun s => process cfg s g) :=
  (c15_leaves cfg g).sim

end

theorem c15_process_comm (cfg : Cfg) (s : State) (g : Group) (c : List Bool) (u : Nat) :
    (process cfg (c15_withObs s c u) g).1 = c15_withObs (process cfg s g).1 c u :=
  (c15_sim_process cfg g s _ ⟨rfl, rfl, rfl⟩).1.2.2

theorem c15_process_good (cfg : Cfg) (s : State) (g : Group) (T : List Bool) (u : Nat) (hT : c15_AllReg T) :
    c15_EvGood s.cbs s.ud (process cfg s g).2 (process cfg (c15_withObs s T u) g).2 :=
  (c15_sim_process cfg g s _ ⟨rfl, rfl, rfl⟩).2 hT

theorem c15_process_cbs (cfg : Cfg) (s : State) (g : Group) : (process cfg s g).1.cbs = s.cbs :=
  (c15_sim_process (T := s.cbs) (u := s.ud) cfg g s _ ⟨rfl, rfl, rfl⟩).1.1
theorem c15_process_ud (cfg : Cfg) (s : State) (g : Group) : (process cfg s g).1.ud = s.ud :=
  (c15_sim_process (T := s.cbs) (u := s.ud) cfg g s _ ⟨rfl, rfl, rfl⟩).1.2.1

theorem c15_step_erase_congr (cfg : Cfg) (s s' : State) (op : Op) (he : erase s = erase s') :
    erase (step cfg s op).1 = erase (step cfg s' op).1 ∧ (step cfg s op).2.2 = (step cfg s' op).2.2 :=
  have r := Sim.step (R := fun a b => erase a = erase b) (EL := fun _ _ => True) .true op
    (fun g _ _ _ h => ⟨c15_Comm.erase_congr (f := fun s => (process cfg s g).1) (fun s c u => c15_process_comm cfg s g c u) h,
      trivial⟩)
    rfl (fun _ _ h => c15_Comm.erase_congr (f := clearState) (fun _ _ _ => rfl) h)
    -- any other call writes the same settings on both sides; what it writes to the observer table is erased
    (fun _ _ h => congrArg (fun e : State => { e with set := op.onSet e.set }) h) s s' he
  ⟨r.1, r.2.1⟩

/-- decoding does not depend on who listens: the successor state, up to the observer table, is the same -/
theorem C15_state (cfg : Cfg) (s : State) (op : Op) (h : op.isObserver = false) :
    erase (step cfg s op).1 = erase (step cfg (erase s) op).1 :=
  (c15_step_erase_congr cfg s (erase s) op rfl).1

/-- observer operations change nothing but the observer table -/
theorem C15_observer (cfg : Cfg) (s : State) (op : Op) (h : op.isObserver = true) :
    erase (step cfg s op).1 = erase s ∧ (step cfg s op).2.1 = [] := by
  cases op with
  | register _ _ | userData _ | getters => exact ⟨rfl, rfl⟩
  | _ => cases h

/-- the result flag never depends on observers -/
theorem C15_ret (cfg : Cfg) (s : State) (op : Op) : (step cfg s op).2.2 = (step cfg (erase s) op).2.2 :=
  (c15_step_erase_congr cfg s (erase s) op rfl).2

theorem c15_step_good (cfg : Cfg) (s : State) (op : Op) :
    c15_EvGood s.cbs s.ud (step cfg s op).2.1 (step cfg (listenAll s) op).2.1 := by
  cases hg : op.group? with
  | none =>
    rw [step_nogroup_evs cfg s hg, step_nogroup_evs cfg (listenAll s) hg]
    exact c15_evGood_nil _ _
  | some g =>
    rw [step_group cfg s hg, step_group cfg (listenAll s) hg]
    exact c15_process_good cfg s g _ s.ud c15_allReg_true

/-- the callbacks invoked are those of the all-listening run filtered by registration, each seeing the same getter-visible state -/
theorem C15_events (cfg : Cfg) (s : State) (op : Op) :
    (step cfg s op).2.1.map (fun e => (e.kind, erase e.snap)) =
    (((step cfg (listenAll s) op).2.1.filter (fun e => s.registered e.kind.cb)).map (fun e => (e.kind, erase e.snap))) :=
  (c15_step_good cfg s op).1

/-- every invoked callback receives the user data most recently set -/
theorem C15_ud (cfg : Cfg) (s : State) (op : Op) : ∀ e ∈ (step cfg s op).2.1, e.ud = s.ud ∧ s.registered e.kind.cb = true :=
  (c15_step_good cfg s op).2

theorem c15_run_erase_congr (cfg : Cfg) (ops : List Op) : ∀ s s' : State, erase s = erase s' →
    erase (runFrom cfg s ops) = erase (runFrom cfg s' (ops.filter (fun o => !o.isObserver))) := by
  induction ops with
  | nil => exact fun _ _ he => he
  | cons op ops ih =>
    intro s s' he
    rw [List.filter_cons]
    -- an observer call is dropped on the right and changes nothing but the table on the left
    cases ho : op.isObserver
    · exact ih _ _ (c15_step_erase_congr cfg s s' op he).1
    · exact ih _ _ ((C15_observer cfg s op ho).1.trans he)

/-- the getter-visible state after any op list is the same with all observer ops removed -/
theorem C15_run (cfg : Cfg) (s : State) (ops : List Op) :
    erase (runFrom cfg s ops) = erase (runFrom cfg (erase s) (ops.filter (fun o => !o.isObserver))) :=
  c15_run_erase_congr cfg ops s (erase s) rfl

#print axioms C15_state
#print axioms C15_observer
#print axioms C15_ret
#print axioms C15_events
#print axioms C15_ud
#print axioms C15_run

end RDS
