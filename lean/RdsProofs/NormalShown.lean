import RdsProofs.CellsDispatch
import RdsProofs.MonGroup
/-!
# "Received is shown" in normal mode, for every history (clauses of C01, C10, C11)

For each handler a condition on the state, over what that handler reads: the state already holds what the group delivers
(`AbsorbedC` for `groupCommon`, `Absorbed0/1/2/10` for the types, `AbsorbedD` = the one of the group's type). In normal
mode each handler establishes its own condition (`*_estab`) and `dispatch` keeps that of `groupCommon`
(`AbsorbedC_dispatch`), so `process` establishes all of them (`process_estab`); the three predicates read their clauses
off that.
-/
namespace RDS

/-- code `v` is absorbed: already listed or not representable -/
def AfAbsorbed (af : List Bool) (v : Nat) : Prop := afGet af v = true ∨ afValid v = false

theorem addAf_estab (s : State) (v : Nat) (hext : s.set.ext = false) (hlen : s.used.af.length = afBits) :
    AfAbsorbed (addAf s v).1.used.af v := by
  cases hv : afValid v
  · exact .inr hv
  · left
    rw [afGet, hv, Bool.true_and, (addAf_valid_af s v hv).1, hext, Bool.false_and, Bool.or_false]
    split
    · assumption
    · exact getD_set_self _ _ _ _ (hlen ▸ afValid_lt hv)

theorem addAf_mono (s : State) (v w : Nat) (h : AfAbsorbed s.used.af w) : AfAbsorbed (addAf s v).1.used.af w :=
  h.imp (fun h => by
    simp only [afGet, Bool.and_eq_true] at h ⊢
    exact ⟨h.1, addAf_keeps s v w h.2⟩) id

/-- the group's PI/PTY/TP are what the getters already show -/
def AbsorbedC (s : State) (g : Group) : Prop :=
  (g.ea = 0 → s.used.get .pi = (g.a : Int)) ∧
  (g.eb = 0 → s.used.get .pty = ((g.b / 32 % 32 : Nat) : Int) ∧ s.used.get .tp = ((g.b / 1024 % 2 : Nat) : Int))

theorem groupCommon_estab (s : State) (g : Group) (hext : s.set.ext = false) :
    AbsorbedC (groupCommon s g).1 g := by
  unfold groupCommon AbsorbedC
  by_cases ha : g.ea = 0 <;> by_cases hb : g.eb = 0 <;> simp [ha, hb, setField_used_get_normal, hext]

def Absorbed0 (cfg : Cfg) (s : State) (g : Group) : Prop :=
  (g.eb = 0 → s.used.get .ta = ((g.b / 16 % 2 : Nat) : Int) ∧ s.used.get .ms = ((g.b / 8 % 2 : Nat) : Int)) ∧
  parserUpdate cfg s.set s.ps .ps g.d g.eb g.ed (2 * (g.b % 4)) = (s.ps, false) ∧
  (afCondM g = true → AfAbsorbed s.used.af (g.c / 256 % 256) ∧ AfAbsorbed s.used.af (g.c % 256))

theorem group0_ta_ms_shown (cfg : Cfg) (s : State) (g : Group) (hext : s.set.ext = false) (heb : g.eb = 0) :
    (group0 cfg s g).1.used.get .ta = ((g.b / 16 % 2 : Nat) : Int) ∧
    (group0 cfg s g).1.used.get .ms = ((g.b / 8 % 2 : Nat) : Int) := by
  -- written by the first stage in normal mode; the PS update and the AF pair leave the scalars alone
  rw [group0_eq]
  split <;> simp [g0ps, g0r1, heb, setField_used_get_normal, hext]

theorem group0_af_absorbed (cfg : Cfg) (s : State) (g : Group) (hext : s.set.ext = false)
    (hlen : s.used.af.length = afBits) (hc : afCondM g = true) :
    AfAbsorbed (group0 cfg s g).1.used.af (g.c / 256 % 256) ∧ AfAbsorbed (group0 cfg s g).1.used.af (g.c % 256) := by
  have hx : (g0ps cfg s g).1.set.ext = false := by rw [g0ps_set]; exact hext
  have hl : (g0ps cfg s g).1.used.af.length = afBits := by rw [g0ps_used_af]; exact hlen
  unfold afCondM at hc
  rw [group0_eq, if_pos hc]
  have a1 := addAf_estab (g0ps cfg s g).1 (g.c / 256 % 256) hx hl
  have a2 := addAf_estab (addAf (g0ps cfg s g).1 (g.c / 256 % 256)).1 (g.c % 256) (by simpa using hx)
    (by rw [addAf_af_length]; exact hl)
  exact ⟨addAf_mono _ _ _ a1, a2⟩

theorem group0_estab (cfg : Cfg) (s : State) (g : Group) (hext : s.set.ext = false)
    (hlen : s.used.af.length = afBits) : Absorbed0 cfg (group0 cfg s g).1 g := by
  refine ⟨group0_ta_ms_shown cfg s g hext, ?_, group0_af_absorbed cfg s g hext hlen⟩
  rw [group0_set, group0_ps]
  exact parserUpdate_idem_self ..

def Absorbed1 (cfg : Cfg) (s : State) (g : Group) : Prop :=
  eccCondM g = true → s.used.get .ecc = ((g.c % 256 : Nat) : Int) ∧
    s.used.get .country = eccLookup cfg s.used.pi ((g.c % 256 : Nat) : Int)

theorem group1_estab (cfg : Cfg) (s : State) (g : Group) (hext : s.set.ext = false) :
    Absorbed1 cfg (group1 cfg s g).1 g := by
  intro hc
  unfold eccCondM at hc
  have hpi : ∀ x : State, x.used.pi = x.used.get .pi := fun _ => rfl
  simp [group1, hc, hpi, setField_used_get_normal, hext]

def Absorbed10 (cfg : Cfg) (s : State) (g : Group) : Prop :=
  g.versionB = false →
    parserUpdate cfg s.set s.ptyn .ptyn g.c g.eb g.ec (4 * (g.b % 2)) = (s.ptyn, false) ∧
    parserUpdate cfg s.set s.ptyn .ptyn g.d g.eb g.ed (4 * (g.b % 2) + 2) = (s.ptyn, false)

theorem group10_estab (cfg : Cfg) (s : State) (g : Group) : Absorbed10 cfg (group10 cfg s g).1 g := by
  intro hv
  unfold group10
  simp only [hv, Bool.not_false, if_true]
  exact ⟨parserUpdate_idem_fst cfg s.set s.ptyn .ptyn g.c g.d g.eb g.ec g.ed _ _ (by omega),
    parserUpdate_idem_self ..⟩

def Absorbed2 (cfg : Cfg) (s : State) (g : Group) : Prop :=
  (g.eb = 0 → ((g.b / 16 % 2 : Nat) : Int) = s.lastRt) ∧
  ((g.eb != 0 && ((g.b / 16 % 2 : Nat) : Int) != s.lastRt && s.lastRt != -1) = true ∨
    ((g.versionB = false →
        parserUpdate cfg s.set (s.rt (g.b / 16 % 2)) .rt g.c g.eb g.ec (4 * (g.b % 16)) =
          (s.rt (g.b / 16 % 2), false)) ∧
      parserUpdate cfg s.set (s.rt (g.b / 16 % 2)) .rt g.d g.eb g.ed
          (if !g.versionB then 4 * (g.b % 16) + 2 else 2 * (g.b % 16)) = (s.rt (g.b / 16 % 2), false)))

theorem group2_estab (cfg : Cfg) (s : State) (g : Group) : Absorbed2 cfg (group2 cfg s g).1 g := by
  rw [group2_eq]
  by_cases hg : (g.eb != 0 && ((g.b / 16 % 2 : Nat) : Int) != (g2s2 s g).lastRt && (g2s2 s g).lastRt != -1) = true
  · rw [if_pos hg]
    have heb : g.eb ≠ 0 := by
      intro h; simp [h] at hg
    exact ⟨fun h => absurd h heb, Or.inl hg⟩
  · rw [if_neg hg]
    refine ⟨fun heb => ?_, Or.inr ⟨fun hv => ?_, ?_⟩⟩
    · simp only [g2tail, setRt_lastRt]
      exact ((g2s2_lastRt s g).trans (if_pos heb)).symm
    · simp only [g2tail, g2u, setRt_set, setRt_rt_same, hv, Bool.not_false, if_true]
      exact parserUpdate_idem_fst cfg _ _ .rt g.c g.d g.eb g.ec g.ed _ _ (by omega)
    · simp only [g2tail, g2u, setRt_set, setRt_rt_same]
      exact parserUpdate_idem_self ..

def AbsorbedD (cfg : Cfg) (s : State) (g : Group) : Prop :=
  (g.type = 0 → Absorbed0 cfg s g) ∧ (g.type = 1 → Absorbed1 cfg s g) ∧ (g.type = 2 → Absorbed2 cfg s g) ∧
  (g.type = 10 → Absorbed10 cfg s g)

theorem dispatch_estab (cfg : Cfg) (s : State) (g : Group) (hext : s.set.ext = false)
    (hlen : s.used.af.length = afBits) : AbsorbedD cfg (dispatch cfg s g).1 g := by
  unfold dispatch
  refine ⟨fun h => ?_, fun h => ?_, fun h => ?_, fun h => ?_⟩
  · rw [if_pos h]; exact group0_estab cfg s g hext hlen
  · rw [if_neg (by omega), if_pos h]; exact group1_estab cfg s g hext
  · rw [if_neg (by omega), if_neg (by omega), if_pos h]; exact group2_estab cfg s g
  · rw [if_neg (by omega), if_neg (by omega), if_neg (by omega), if_neg (by omega), if_pos h]
    exact group10_estab cfg s g

theorem AbsorbedC_dispatch (cfg : Cfg) (s : State) (g : Group) (h : AbsorbedC s g) :
    AbsorbedC (dispatch cfg s g).1 g := by
  -- whatever is written to a field is what the group's selector offers, which `f` shows already
  have keep (f : Fld) (hf : f ≠ .country) (v : Int) (hs : f.sel g = some v) (h : s.used.get f = v) :
      (dispatch cfg s g).1.used.get f = v :=
    dispatch_ind cfg g (P := fun s => s.used.get f = v)
      (fun f' v' s hs' hp => by
        by_cases e : f = f'
        · cases e; cases hs.symm.trans hs'
          rw [setField_used_get]
          exact (bufUpdate_fst ..).elim (·.trans hp) id
        · rw [setField_used_get_ne _ _ _ _ e]; exact hp)
      (fun _ s _ hp => by rw [setField_used_get_ne _ _ _ _ hf]; exact hp)
      (fun w s hp => by rw [addAf_used_get]; exact hp) (fun s s' hu _ hp => by rw [hu]; exact hp) s h
  exact ⟨fun ha => keep .pi nofun _ (if_pos ha) (h.1 ha),
    fun hb => ⟨keep .pty nofun _ (if_pos hb) (h.2 hb).1, keep .tp nofun _ (if_pos hb) (h.2 hb).2⟩⟩

theorem process_estab (cfg : Cfg) (s : State) (g : Group) (hext : s.set.ext = false)
    (hlen : s.used.af.length = afBits) :
    AbsorbedC (process cfg s g).1 g ∧ AbsorbedD cfg (process cfg s g).1 g := by
  have hext' : (groupCommon s g).1.set.ext = false := by
    rw [groupCommon_set]; exact hext
  have hlen' : (groupCommon s g).1.used.af.length = afBits := by rw [groupCommon_used_af]; exact hlen
  exact ⟨AbsorbedC_dispatch cfg _ g (groupCommon_estab s g hext), dispatch_estab cfg _ g hext' hlen'⟩

/-- the three predicates have one shape: nothing is claimed unless the call delivers a group `g` in normal mode,
and then what `process` establishes (`process_estab`) is at hand -/
theorem normal_of (cfg : Cfg) (s : State) (op : Op) (hlen : s.used.af.length = afBits) (X : Group → Bool)
    (hX : ∀ g, op.group? = some g → AbsorbedC (step cfg s op).1 g → AbsorbedD cfg (step cfg s op).1 g → X g = true) :
    (match op.group? with
      | none => true
      | some g => s.set.ext || X g) = true := by
  cases hg : op.group? with
  | none => rfl
  | some g =>
    show (s.set.ext || X g) = true
    cases hext : s.set.ext with
    | true => rfl
    | false =>
      obtain ⟨hc, hd⟩ := process_estab cfg s g hext hlen
      rw [← congrArg (·.1) (step_group cfg s hg)] at hc hd
      exact hX g hg hc hd

theorem chkNormalScalars_ok (cfg : Cfg) (s : State) (op : Op) (hlen : s.used.af.length = afBits) :
    chkNormalScalars (recOf cfg s op) = true := by
  refine normal_of cfg s op hlen _ ?_
  intro g _ hc hd
  simp only [Bool.and_eq_true, Bool.or_eq_true, bne_iff_ne, ne_eq, beq_iff_eq, Bool.not_eq_true']
  refine ⟨⟨?_, ?_⟩, ?_⟩
  · by_cases h : g.ea = 0
    · right; exact hc.1 h
    · left; exact h
  · by_cases h : g.eb = 0
    · right; exact hc.2 h
    · left; exact h
  · by_cases h : g.type = 0 ∧ g.eb = 0
    · right; exact (hd.1 h.1).1 h.2
    · left; simpa using h

theorem afShown_of {af : List Bool} {v : Nat} (h : AfAbsorbed af v) : afShown af v = true := by
  unfold afShown
  rcases h with h | h <;> simp [h]

theorem chkNormalAf_ok (cfg : Cfg) (s : State) (op : Op) (hlen : s.used.af.length = afBits) :
    chkNormalAf (recOf cfg s op) = true := by
  unfold chkNormalAf
  simp only [Bool.or_assoc]
  refine normal_of cfg s op hlen _ ?_
  intro g _ _ hd
  by_cases h : g.type = 0 ∧ afCondM g = true
  · have ha := (hd.1 h.1).2.2 h.2
    simp [recOf, Obs.ofState, afShown_of ha.1, afShown_of ha.2]
  · have : (decide (g.type = 0) && afCondM g) = false := by simpa using h
    simp [this]

theorem chkNormalEcc_ok (cfg : Cfg) (s : State) (op : Op) (hlen : s.used.af.length = afBits) :
    chkNormalEcc (recOf cfg s op) = true := by
  unfold chkNormalEcc
  simp only [Bool.or_assoc]
  refine normal_of cfg s op hlen _ ?_
  intro g _ _ hd
  by_cases h : g.type = 1 ∧ eccCondM g = true
  · have ha : (step cfg s op).1.used.ecc = ((g.c % 256 : Nat) : Int) :=
      (hd.2.1 h.1 h.2).1
    simp [recOf, Obs.ofState, ha]
  · have : (decide (g.type = 1) && eccCondM g) = false := by simpa using h
    simp [this]

end RDS

#print axioms RDS.chkNormalScalars_ok
#print axioms RDS.chkNormalAf_ok
#print axioms RDS.chkNormalEcc_ok
