import RdsSpec.Statements
import RdsProofs.Frame
/-!
# RdsProofs.C14Proofs — hex-string input
-/
namespace RDS

def isHexByte (c : Nat) : Bool := (48 ≤ c && c ≤ 57) || (65 ≤ c && c ≤ 70) || (97 ≤ c && c ≤ 102)

theorem c14_hexVal_isSome (c : Nat) : (hexVal? c).isSome = isHexByte c := by
  unfold hexVal? isHexByte
  cases (decide (48 ≤ c) && decide (c ≤ 57)) <;> cases (decide (65 ≤ c) && decide (c ≤ 70)) <;>
    cases (decide (97 ≤ c) && decide (c ≤ 102)) <;> rfl

theorem hexVal_digit (c v : Nat) (h : hexVal? c = some v) :
    v < 16 ∧ ((48 ≤ c ∧ c ≤ 57 ∧ v = c - 48) ∨ (65 ≤ c ∧ c ≤ 70 ∧ v = c - 55) ∨ (97 ≤ c ∧ c ≤ 102 ∧ v = c - 87)) := by
  unfold hexVal? at h
  simp only [Bool.and_eq_true, decide_eq_true_eq] at h
  split at h
  · next hc => cases h; exact ⟨by omega, .inl ⟨hc.1, hc.2, rfl⟩⟩
  · split at h
    · next hc => cases h; exact ⟨by omega, .inr (.inl ⟨hc.1, hc.2, rfl⟩)⟩
    · split at h
      · next hc => cases h; exact ⟨by omega, .inr (.inr ⟨hc.1, hc.2, rfl⟩)⟩
      · cases h

/-- the step function of `hexNum?` -/
def c14_hexStep (acc : Option Nat) (c : Nat) : Option Nat :=
  match acc, hexVal? c with
  | some a, some v => some (a * 16 + v)
  | _, _ => none

theorem c14_hexNum_eq_foldl (cs : List Nat) : hexNum? cs = cs.foldl c14_hexStep (some 0) := rfl

theorem c14_hexStep_none (c : Nat) : c14_hexStep none c = none := rfl

theorem c14_hexStep_some (a c v : Nat) (h : hexVal? c = some v) : c14_hexStep (some a) c = some (a * 16 + v) := by
  simp [c14_hexStep, h]

theorem c14_hexStep_some_none (a c : Nat) (h : hexVal? c = none) : c14_hexStep (some a) c = none := by
  simp [c14_hexStep, h]

theorem c14_hexFold_none (cs : List Nat) : cs.foldl c14_hexStep none = none := by
  induction cs with
  | nil => rfl
  | cons c cs ih => rw [List.foldl_cons, c14_hexStep_none]; exact ih

theorem c14_hexFold_isSome (cs : List Nat) : ∀ a, (cs.foldl c14_hexStep (some a)).isSome = cs.all isHexByte := by
  induction cs with
  | nil => intro a; rfl
  | cons c cs ih =>
    intro a
    rw [List.foldl_cons, List.all_cons, ← c14_hexVal_isSome]
    cases hv : hexVal? c with
    | none => rw [c14_hexStep_some_none a c hv, c14_hexFold_none]; rfl
    | some v => rw [c14_hexStep_some a c v hv, ih]; rfl

theorem c14_hexNum_isSome (cs : List Nat) : (hexNum? cs).isSome = cs.all isHexByte :=
  c14_hexFold_isSome cs 0

theorem c14_hexFold_lt (cs : List Nat) : ∀ a k r, a < 16 ^ k → cs.foldl c14_hexStep (some a) = some r →
    r < 16 ^ (k + cs.length) := by
  induction cs with
  | nil =>
    intro a k r ha h
    simp only [List.foldl_nil, Option.some.injEq] at h
    subst h; simpa using ha
  | cons c cs ih =>
    intro a k r ha h
    rw [List.foldl_cons] at h
    cases hv : hexVal? c with
    | none => rw [c14_hexStep_some_none a c hv, c14_hexFold_none] at h; cases h
    | some v =>
      rw [c14_hexStep_some a c v hv] at h
      have hv16 := (hexVal_digit c v hv).1
      have hp : (16 : Nat) ^ (k + 1) = 16 ^ k * 16 := Nat.pow_succ 16 k
      rw [List.length_cons, show k + (cs.length + 1) = k + 1 + cs.length by omega]
      exact ih (a * 16 + v) (k + 1) r (by rw [hp]; omega) h

theorem c14_hexNum_lt (cs : List Nat) (r : Nat) (h : hexNum? cs = some r) : r < 16 ^ cs.length := by
  have := c14_hexFold_lt cs 0 0 r (by decide) h
  simpa using this

/-- value of four hex digits is positional -/
theorem hexNum4 (c0 c1 c2 c3 v0 v1 v2 v3 : Nat) (h0 : hexVal? c0 = some v0) (h1 : hexVal? c1 = some v1)
    (h2 : hexVal? c2 = some v2) (h3 : hexVal? c3 = some v3) :
    hexNum? [c0, c1, c2, c3] = some (4096 * v0 + 256 * v1 + 16 * v2 + v3) := by
  rw [c14_hexNum_eq_foldl]
  simp only [List.foldl_cons, List.foldl_nil]
  rw [c14_hexStep_some 0 c0 v0 h0, c14_hexStep_some _ c1 v1 h1, c14_hexStep_some _ c2 v2 h2, c14_hexStep_some _ c3 v3 h3]
  congr 1
  omega

theorem c14_all_split (p : Nat → Bool) (l : List Nat) :
    l.all p = ((l.take 4).all p && ((l.drop 4).take 4).all p && ((l.drop 8).take 4).all p &&
      ((l.drop 12).take 4).all p && (l.drop 16).all p) := by
  have e1 : l = l.take 4 ++ ((l.drop 4).take 4 ++ ((l.drop 8).take 4 ++ ((l.drop 12).take 4 ++ l.drop 16))) := by
    have d8 : (l.drop 4).drop 4 = l.drop 8 := by rw [List.drop_drop]
    have d12 : (l.drop 8).drop 4 = l.drop 12 := by rw [List.drop_drop]
    have d16 : (l.drop 12).drop 4 = l.drop 16 := by rw [List.drop_drop]
    rw [← d16, List.take_append_drop, ← d12, List.take_append_drop, ← d8, List.take_append_drop,
      List.take_append_drop]
  conv => lhs; rw [e1]
  simp only [List.all_append, Bool.and_assoc]

theorem c14_utilsConvert_some (bytes : List Nat) (g : Group) (h : utilsConvert bytes = some g) :
    (bytes.length = 16 ∨ bytes.length = 18) ∧ ∃ e,
      hexNum? (bytes.take 4) = some g.a ∧ hexNum? ((bytes.drop 4).take 4) = some g.b ∧
      hexNum? ((bytes.drop 8).take 4) = some g.c ∧ hexNum? ((bytes.drop 12).take 4) = some g.d ∧
      hexNum? (bytes.drop 16) = some e ∧
      g.ea = e / 64 % 4 ∧ g.eb = e / 16 % 4 ∧ g.ec = e / 4 % 4 ∧ g.ed = e % 4 := by
  unfold utilsConvert at h
  split at h
  · rename_i hlen
    simp only [Bool.or_eq_true, decide_eq_true_eq] at hlen
    refine ⟨hlen, ?_⟩
    split at h
    · rename_i a b c d e ha hb hc hd he
      injection h with h
      subst h
      exact ⟨e, ha, hb, hc, hd, he, rfl, rfl, rfl, rfl⟩
    · cases h
  · cases h

theorem utilsConvert_append {p0 p1 p2 p3 p4 : List Nat} {a b c d e : Nat}
    (l0 : p0.length = 4) (l1 : p1.length = 4) (l2 : p2.length = 4) (l3 : p3.length = 4)
    (l4 : p4.length = 0 ∨ p4.length = 2)
    (h0 : hexNum? p0 = some a) (h1 : hexNum? p1 = some b) (h2 : hexNum? p2 = some c) (h3 : hexNum? p3 = some d)
    (h4 : hexNum? p4 = some e) :
    utilsConvert (p0 ++ (p1 ++ (p2 ++ (p3 ++ p4)))) = some ⟨a, b, c, d, e / 64 % 4, e / 16 % 4, e / 4 % 4, e % 4⟩ := by
  generalize hs : p0 ++ (p1 ++ (p2 ++ (p3 ++ p4))) = bytes
  have d4 : bytes.drop 4 = p1 ++ (p2 ++ (p3 ++ p4)) := hs ▸ List.drop_left' l0
  have d8 : bytes.drop 8 = p2 ++ (p3 ++ p4) := by rw [← List.drop_drop (i := 4) (j := 4), d4, List.drop_left' l1]
  have d12 : bytes.drop 12 = p3 ++ p4 := by rw [← List.drop_drop (i := 4) (j := 8), d8, List.drop_left' l2]
  have d16 : bytes.drop 16 = p4 := by rw [← List.drop_drop (i := 4) (j := 12), d12, List.drop_left' l3]
  have hl : bytes.length = 16 ∨ bytes.length = 18 := by
    simp only [← hs, List.length_append, l0, l1, l2, l3]; omega
  unfold utilsConvert
  rw [if_pos (by simpa using hl), d4, d8, d12, d16, ← hs, List.take_left' l0, List.take_left' l1, List.take_left' l2,
    List.take_left' l3, h0, h1, h2, h3, h4]

/-- accepted exactly when the input consists of 16 or 18 hexadecimal digits and nothing else -/
theorem C14_accept_iff (bytes : List Nat) :
    (utilsConvert bytes).isSome = true ↔ ((bytes.length = 16 ∨ bytes.length = 18) ∧ ∀ c ∈ bytes, isHexByte c = true) := by
  rw [← List.all_eq_true, c14_all_split]
  simp only [← c14_hexNum_isSome]
  constructor
  · intro h
    obtain ⟨g, hg⟩ := Option.isSome_iff_exists.mp h
    obtain ⟨hlen, e, ha, hb, hc, hd, he, _⟩ := c14_utilsConvert_some bytes g hg
    exact ⟨hlen, by rw [ha, hb, hc, hd, he]; rfl⟩
  · rintro ⟨hlen, h⟩
    simp only [Bool.and_eq_true, Option.isSome_iff_exists] at h
    obtain ⟨⟨⟨⟨⟨a, ha⟩, b, hb⟩, c, hc⟩, d, hd⟩, e, he⟩ := h
    unfold utilsConvert
    rw [if_pos (by simpa using hlen), ha, hb, hc, hd, he]
    rfl
theorem hexNum_block_lt (l : List Nat) (k r : Nat) (hk : k ≤ 12) (hl : 16 ≤ l.length)
    (h : hexNum? ((l.drop k).take 4) = some r) : r < 65536 := by
  have := c14_hexNum_lt _ _ h
  rwa [List.length_take, List.length_drop, Nat.min_eq_left (by omega)] at this

/-- decoded blocks are 16-bit, error levels are the four 2-bit fields of the trailing byte (0 when absent) -/
theorem C14_decoded (bytes : List Nat) (g : Group) (h : utilsConvert bytes = some g) :
    g.Bounded ∧ g.ea < 4 ∧ g.eb < 4 ∧ g.ec < 4 ∧ g.ed < 4 ∧
    (bytes.length = 16 → g.ea = 0 ∧ g.eb = 0 ∧ g.ec = 0 ∧ g.ed = 0) ∧
    (∀ e, bytes.length = 18 → hexNum? (bytes.drop 16) = some e →
        g.ea = e / 64 % 4 ∧ g.eb = e / 16 % 4 ∧ g.ec = e / 4 % 4 ∧ g.ed = e % 4) ∧
    hexNum? (bytes.take 4) = some g.a ∧ hexNum? ((bytes.drop 4).take 4) = some g.b ∧
    hexNum? ((bytes.drop 8).take 4) = some g.c ∧ hexNum? ((bytes.drop 12).take 4) = some g.d := by
  obtain ⟨hlen, e, ha, hb, hc, hd, he, hea, heb, hec, hed⟩ := c14_utilsConvert_some bytes g h
  have h16 : 16 ≤ bytes.length := by omega
  have a4 : g.ea < 4 := hea ▸ Nat.mod_lt _ (by decide)
  have b4 : g.eb < 4 := heb ▸ Nat.mod_lt _ (by decide)
  have c4 : g.ec < 4 := hec ▸ Nat.mod_lt _ (by decide)
  have d4 : g.ed < 4 := hed ▸ Nat.mod_lt _ (by decide)
  have lt256 : ∀ {x : Nat}, x < 4 → x < 256 := fun hx => Nat.lt_trans hx (by decide)
  refine ⟨⟨hexNum_block_lt bytes 0 _ (by decide) h16 ha, hexNum_block_lt bytes 4 _ (by decide) h16 hb,
    hexNum_block_lt bytes 8 _ (by decide) h16 hc, hexNum_block_lt bytes 12 _ (by decide) h16 hd, lt256 a4, lt256 b4,
    lt256 c4, lt256 d4⟩, a4, b4, c4, d4, ?_, ?_, ha, hb, hc, hd⟩
  · -- no trailing byte: the empty field has value 0
    intro h16'
    have be := c14_hexNum_lt _ _ he
    rw [List.length_drop, h16'] at be
    have : e = 0 := by simpa using be
    subst this
    exact ⟨hea, heb, hec, hed⟩
  · intro e' _ he'
    rw [he] at he'
    cases he'
    exact ⟨hea, heb, hec, hed⟩

/-- a well-formed string has exactly the effect of the binary call with the decoded group -/
theorem C14_equiv (cfg : Cfg) (s : State) (bytes : List Nat) (g : Group) (h : utilsConvert bytes = some g) :
    step cfg s (.parseString (some bytes)) = step cfg s (.parse g) := by
  simp only [step, h]

/-- every other input, including NULL: returns false, no callback, state untouched -/
theorem C14_reject (cfg : Cfg) (s : State) (x : Option (List Nat)) (h : (Op.parseString x).group? = none) :
    step cfg s (.parseString x) = (s, [], false) := by
  cases x with
  | none => rfl
  | some b =>
    have h' : utilsConvert b = none := h
    simp only [step, h']

theorem chkC14_ok (cfg : Cfg) (s : State) (op : Op) : chkC14 (recOf cfg s op) = true := by
  cases op with
  | parseString x =>
    cases hg : (Op.parseString x).group? with
    | none => simp [chkC14, recOf, hg, C14_reject cfg s x hg]
    | some g => simp only [chkC14, recOf, hg, step_group cfg s hg]
  | _ => rfl

#print axioms C14_accept_iff
#print axioms hexNum4
#print axioms hexVal_digit
#print axioms C14_decoded
#print axioms C14_equiv
#print axioms C14_reject
#print axioms chkC14_ok

end RDS
