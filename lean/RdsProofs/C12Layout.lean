import RdsModel
/-!
# RdsProofs.C12Layout — the 4A clock-time layout, specified bit by bit

`ctFields_spec`: the model's 4A clock-time layout (`ctFields`) equals an independent bit-by-bit specification taken from
IEC 62106 / EN 50067 §3.1.5.6, for arbitrary naturals in blocks B and D and a 16-bit block C (a bound that is needed:
`afr_ctFields_spec_needs_bound`). `ctFields_spec_mod` is the form without bounds, on blocks reduced modulo 2^16.
-/
namespace RDS

/-- the number whose binary digits, MOST significant first, are `bs` -/
def afr_ofBits (bs : List Bool) : Nat := bs.foldl (fun acc b => 2 * acc + (if b then 1 else 0)) 0

/-- Group type 4A per IEC 62106 / EN 50067 §3.1.5.6, written with explicit bit tests (`X i` = bit `i` of the
16-bit block `X`, bit 0 least significant), independent of the `/`, `%` expressions of the model:
* Modified Julian Day, 17 bits: bits 1..0 of block B, then bits 15..1 of block C;
* hour, 5 bits: bit 0 of block C, then bits 15..12 of block D;
* minute, 6 bits: bits 11..6 of block D;
* local time offset: sense = bit 5 of block D (1 = negative), magnitude = bits 4..0 of block D, in half hours. -/
def ctFieldsSpec (g : Group) : Nat × Nat × Nat × Int :=
  let B := g.b.testBit
  let C := g.c.testBit
  let D := g.d.testBit
  let mjd := afr_ofBits [B 1, B 0, C 15, C 14, C 13, C 12, C 11, C 10, C 9, C 8, C 7, C 6, C 5, C 4, C 3, C 2, C 1]
  let hour := afr_ofBits [C 0, D 15, D 14, D 13, D 12]
  let minute := afr_ofBits [D 11, D 10, D 9, D 8, D 7, D 6]
  let mag : Int := (afr_ofBits [D 4, D 3, D 2, D 1, D 0] : Nat)
  (mjd, hour, minute, if D 5 then -mag else mag)

/-- the same layout with C-style shifts and masks -/
def afr_ctFieldsShift (g : Group) : Nat × Nat × Nat × Int :=
  let mag : Int := (g.d &&& 0x1F : Nat)
  (((g.b &&& 3) <<< 15) ||| ((g.c &&& 0xFFFF) >>> 1), ((g.c &&& 1) <<< 4) ||| ((g.d >>> 12) &&& 0xF),
   (g.d >>> 6) &&& 0x3F, if (g.d >>> 5) &&& 1 = 1 then -mag else mag)

theorem afr_bit (w i : Nat) : (if w.testBit i then 1 else 0) = w / 2 ^ i % 2 := by
  rw [← Nat.toNat_testBit]
  cases w.testBit i <;> rfl

theorem afr_foldl_init (ys : List Bool) : ∀ a : Nat,
    ys.foldl (fun acc b => 2 * acc + (if b then 1 else 0)) a
      = a * 2 ^ ys.length + ys.foldl (fun acc b => 2 * acc + (if b then 1 else 0)) 0 := by
  induction ys with
  | nil => intro a; simp
  | cons b ys ih =>
    intro a
    simp only [List.foldl_cons, List.length_cons]
    rw [ih (2 * a + _), ih (2 * 0 + _), Nat.pow_succ]
    generalize 2 ^ ys.length = p
    generalize (if b = true then 1 else 0) = x
    simp only [Nat.add_mul, Nat.mul_zero, Nat.zero_add, Nat.add_assoc]
    congr 1
    rw [Nat.mul_comm 2 a, Nat.mul_assoc, Nat.mul_comm 2 p]

theorem afr_ofBits_append (xs ys : List Bool) :
    afr_ofBits (xs ++ ys) = afr_ofBits xs * 2 ^ ys.length + afr_ofBits ys := by
  unfold afr_ofBits
  rw [List.foldl_append, afr_foldl_init]

theorem afr_ofBits_cons (b : Bool) (bs : List Bool) :
    afr_ofBits (b :: bs) = (if b then 1 else 0) * 2 ^ bs.length + afr_ofBits bs := by
  have e := afr_ofBits_append [b] bs
  simpa [afr_ofBits] using e

/-- bits `lo+n-1 .. lo` of `w`, most significant first -/
def afr_bitsOf (w lo n : Nat) : List Bool := (List.range n).reverse.map (fun i => w.testBit (lo + i))

theorem afr_bitsOf_length (w lo n : Nat) : (afr_bitsOf w lo n).length = n := by
  simp [afr_bitsOf]

theorem afr_field (w lo : Nat) : ∀ n, afr_ofBits (afr_bitsOf w lo n) = w / 2 ^ lo % 2 ^ n := by
  intro n
  induction n with
  | zero => simp [afr_bitsOf, afr_ofBits, Nat.mod_one]
  | succ n ih =>
    unfold afr_bitsOf at ih ⊢
    simp only [List.range_succ, List.reverse_append, List.reverse_cons, List.reverse_nil, List.nil_append,
      List.singleton_append, List.map_cons]
    rw [afr_ofBits_cons, ih, List.length_map, List.length_reverse, List.length_range, afr_bit,
      Nat.mod_pow_succ, Nat.pow_add, ← Nat.div_div_eq_div_mul, Nat.add_comm, Nat.mul_comm]

/-- the specification, computed: identical to the model's expressions except that block C is read modulo 2^16
(the specification looks at bits 15..0 only) -/
theorem afr_ctFieldsSpec_eq (g : Group) :
    ctFieldsSpec g =
      ((g.b % 4) * 32768 + g.c % 65536 / 2, (g.c % 2) * 16 + g.d / 4096 % 16, g.d / 64 % 64,
       if g.d / 32 % 2 = 1 then -((g.d % 32 : Nat) : Int) else ((g.d % 32 : Nat) : Int)) := by
  -- the four fields as bit ranges: B[1..0] C[15..1], C[0] D[15..12], D[11..6], sign D[5] and D[4..0]
  show (afr_ofBits (afr_bitsOf g.b 0 2 ++ afr_bitsOf g.c 1 15), afr_ofBits (afr_bitsOf g.c 0 1 ++ afr_bitsOf g.d 12 4),
    afr_ofBits (afr_bitsOf g.d 6 6),
    if g.d.testBit 5 then -((afr_ofBits (afr_bitsOf g.d 0 5) : Nat) : Int) else ((afr_ofBits (afr_bitsOf g.d 0 5) : Nat) : Int))
    = _
  simp only [afr_ofBits_append, afr_field, afr_bitsOf_length, Nat.testBit_eq_decide_div_mod_eq, decide_eq_true_eq,
    Nat.reducePow, Nat.div_one]
  rw [show g.c / 2 % 32768 = g.c % 65536 / 2 by omega]

/-- C12 layout: the model's `ctFields` is the bit layout of the standard. -/
theorem ctFields_spec (g : Group) (hc : g.c < 65536) : ctFields g = ctFieldsSpec g := by
  rw [afr_ctFieldsSpec_eq, Nat.mod_eq_of_lt hc]
  rfl

theorem afr_ctFieldsSpec_mod (g : Group) :
    ctFieldsSpec { g with b := g.b % 65536, c := g.c % 65536, d := g.d % 65536 } = ctFieldsSpec g := by
  have h : ∀ w i, i < 16 → (w % 65536).testBit i = w.testBit i := fun w i hi => by
    rw [show 65536 = 2 ^ 16 from rfl, Nat.testBit_mod_two_pow, decide_eq_true hi, Bool.true_and]
  simp (disch := decide) only [ctFieldsSpec, h]

/-- without any bound, on the blocks reduced modulo 2^16 (what a `uint16_t` holds) -/
theorem ctFields_spec_mod (g : Group) :
    ctFields { g with b := g.b % 65536, c := g.c % 65536, d := g.d % 65536 } = ctFieldsSpec g := by
  rw [ctFields_spec _ (Nat.mod_lt _ (by decide)), afr_ctFieldsSpec_mod]

/-- the bound on block C in `ctFields_spec` is needed: the model's `g.c / 2` is not masked (immaterial for the
library, whose blocks are `uint16_t`; `Group` fields are unbounded only for convenience) -/
theorem afr_ctFields_spec_needs_bound :
    ctFields ⟨0, 0, 131072, 0, 0, 0, 0, 0⟩ ≠ ctFieldsSpec ⟨0, 0, 131072, 0, 0, 0, 0, 0⟩ := by decide

theorem afr_ctFieldsShift_eq (g : Group) : afr_ctFieldsShift g = ctFieldsSpec g := by
  rw [afr_ctFieldsSpec_eq]
  unfold afr_ctFieldsShift
  have m3 : g.b &&& 3 = g.b % 4 := Nat.and_two_pow_sub_one_eq_mod g.b 2
  have mF : g.c &&& 0xFFFF = g.c % 65536 := Nat.and_two_pow_sub_one_eq_mod g.c 16
  have m1 : g.c &&& 1 = g.c % 2 := Nat.and_two_pow_sub_one_eq_mod g.c 1
  have m15 : (g.d >>> 12) &&& 0xF = g.d / 4096 % 16 := by
    rw [Nat.shiftRight_eq_div_pow]; exact Nat.and_two_pow_sub_one_eq_mod _ 4
  have m63 : (g.d >>> 6) &&& 0x3F = g.d / 64 % 64 := by
    rw [Nat.shiftRight_eq_div_pow]; exact Nat.and_two_pow_sub_one_eq_mod _ 6
  have ms : (g.d >>> 5) &&& 1 = g.d / 32 % 2 := by
    rw [Nat.shiftRight_eq_div_pow]; exact Nat.and_two_pow_sub_one_eq_mod _ 1
  have m31 : g.d &&& 0x1F = g.d % 32 := Nat.and_two_pow_sub_one_eq_mod g.d 5
  have o1 : ((g.b % 4) <<< 15) ||| ((g.c % 65536) >>> 1) = (g.b % 4) * 32768 + g.c % 65536 / 2 := by
    rw [Nat.shiftRight_eq_div_pow, ← Nat.shiftLeft_add_eq_or_of_lt (by omega), Nat.shiftLeft_eq]
  have o2 : ((g.c % 2) <<< 4) ||| (g.d / 4096 % 16) = (g.c % 2) * 16 + g.d / 4096 % 16 := by
    rw [← Nat.shiftLeft_add_eq_or_of_lt (by omega), Nat.shiftLeft_eq]
  simp only [m3, mF, m1, m15, m63, ms, m31, o1, o2]

/-- a concrete 4A group: MJD 60275 = 0b0_1110_1011_0111_0011, 23:45 UTC, offset -1.5 h. B = 0x4401 (low bits 01: the two
top bits of the MJD), C = 0xD6E7 (bits 15..1: the low 15 bits of the MJD; bit 0: the top bit of the hour), D = 0x7B63 -/
example : ctFieldsSpec ⟨0, 0x4401, 0xD6E7, 0x7B63, 0, 0, 0, 0⟩ = (60275, 23, 45, -3) ∧
    ctFields ⟨0, 0x4401, 0xD6E7, 0x7B63, 0, 0, 0, 0⟩ = (60275, 23, 45, -3) ∧
    (0xD6E7 : Nat) < 65536 := by decide

end RDS

#print axioms RDS.ctFields_spec
#print axioms RDS.ctFields_spec_mod
#print axioms RDS.afr_ctFieldsShift_eq
