import RdsProofs.Anatomy
/-!
# The nested-call model (RdsModel/Reentrant.lean) with the handler that does nothing is the plain model
-/
namespace RDS

theorem ite_pair_left {α β : Type} (c : Prop) [Decidable c] (x : α) (a b : β) :
    (if c then (x, a) else (x, b)) = (x, if c then a else b) := by split <;> rfl

@[simp] theorem emitH_noop (s : State) (c : Cb) (k : EvKind) :
    emitH Handler.noop s c k = (s, emit s c k) := by
  unfold emitH emit Handler.noop; split <;> rfl

@[simp] theorem setFieldH_noop (s : State) (f : Fld) (v : Int) :
    setFieldH Handler.noop s f v = setField s f v := by
  unfold setFieldH setField; simp only [emitH_noop]; split <;> rfl

@[simp] theorem addAfH_noop (s : State) (v : Nat) : addAfH Handler.noop s v = addAf s v := by
  unfold addAfH
  by_cases h1 : afGet s.used.af v = true
  · rw [if_pos h1, addAf_known s v h1]
  · by_cases h2 : (s.set.ext && !afGet s.temp.af v) = true
    · rw [if_neg h1, if_pos h2, addAf_candidate s v h1 h2]
    · rw [if_neg h1, if_neg h2, addAf_listed s v h1 h2]
      simp only [emitH_noop, ite_pair_left]

@[simp] theorem group2H_noop (cfg : Cfg) (s : State) (g : Group) :
    group2H cfg Handler.noop s g = group2 cfg s g := by
  rw [group2H_eq, group2_eq]
  unfold g2tailH g2tail
  simp only [emitH_noop, ite_pair_left]

@[simp] theorem group4H_noop (s : State) (g : Group) :
    group4H Handler.noop s g = group4 s g := by
  unfold group4H group4; simp only [emitH_noop]
  split
  · cases ctInit (ctFields g).1 (ctFields g).2.1 (ctFields g).2.2.1 (ctFields g).2.2.2 <;> rfl
  · rfl

@[simp] theorem group10H_noop (cfg : Cfg) (s : State) (g : Group) :
    group10H cfg Handler.noop s g = group10 cfg s g := by
  unfold group10H group10; simp only [emitH_noop, ite_pair_left]

theorem piecesH_noop (cfg : Cfg) (g : Group) : piecesH cfg Handler.noop g = pieces cfg g := by
  unfold piecesH pieces
  congr 1
  · funext f v s; exact setFieldH_noop s f v
  · funext v s; exact addAfH_noop s v
  · funext s; exact setFieldH_noop s _ _
  · funext s; unfold psUpdH psUpd; rw [emitH_noop, ite_pair_left]
  · funext s; exact group2H_noop cfg s g
  · funext s; exact group4H_noop s g
  · funext s; exact group10H_noop cfg s g

/-- **Conservativity.** With callbacks that do not call back into the API the nested-call model is
the model all property theorems are about. -/
theorem processH_noop (cfg : Cfg) (s : State) (g : Group) :
    processH cfg Handler.noop s g = process cfg s g := by
  rw [processH_eq_pieces, process_eq_pieces, piecesH_noop]

theorem stepH_group (cfg : Cfg) (h : Handler) (s : State) {op : Op} {g : Group} (hg : op.group? = some g) :
    stepH cfg h s op = ((processH cfg h s g).1, (processH cfg h s g).2, true) := by
  cases op with
  | parse g0 => cases hg; rfl
  | parseString x =>
    cases x with
    | none => cases hg
    | some b => have hu : utilsConvert b = some g := hg; simp only [stepH, hu]
  | _ => cases hg

theorem stepH_nogroup (cfg : Cfg) (h : Handler) (s : State) {op : Op} (hg : op.group? = none) :
    stepH cfg h s op = step cfg s op := by
  cases op with
  | parse g0 => cases hg
  | parseString x =>
    cases x with
    | none => rfl
    | some b => have hu : utilsConvert b = none := hg; simp only [stepH, step, hu]
  | _ => rfl

theorem stepH_noop (cfg : Cfg) (s : State) (op : Op) : stepH cfg Handler.noop s op = step cfg s op := by
  cases hg : op.group? with
  | none => exact stepH_nogroup cfg _ s hg
  | some g => rw [stepH_group cfg _ s hg, step_group cfg s hg, processH_noop]

theorem mstepH_noop (cfg : Cfg) (w : World) (m : MOp) : mstepH cfg Handler.noop w m = mstep cfg w m := by
  cases m <;> try rfl
  simp only [mstepH, mstep, stepH_noop]; rfl

end RDS
