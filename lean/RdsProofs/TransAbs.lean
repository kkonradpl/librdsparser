import RdsC
import RdsModel
import RdsSpec.Statements
import RdsProofs.TransBits
import RdsProofs.Anatomy
/-!
# RdsProofs.TransAbs — from the translated C state to the model state

`RdsC/Translated.lean` is generated from `/repo/src/*.c` on every run by `tools/c2lean.py`. Here: how a translated C state
(`C_librdsparser`) is read as a model `State` (`abs`: exactly what the public getters return) and a logged callback as an
`Event`; the invariant of reachable C states (`CInv`); the model configuration the C source text defines (`cfgC`: its
charset array and ECC look-up tables). The refinement theorems of `RdsProofs/Trans*.lean` say that a translated API
function, seen through `abs`, is the function of the model; the relation they are stated in (`tg_Ref`, `tg_Step`: a C
call threading state and callback log against a model function) and its rules for sequence and branch are here too.
-/
namespace RDS.C
open RDS
open RDS.C.TransBits (bitsOf)

/-- the model configuration the C source text defines -/
def cfgC (unicode : Bool) : Cfg :=
  { unicode := unicode,
    g0 := fun b => (c_rdsparser_string_convert_charset.getD (b - 32) 32).toNat,
    ecc := fun nib e => (c_rdsparser_ecc_lookup ((nib : Int) * 4096) (e : Int)).toNat }

/-- a packed C string as the model's list of cells -/
def absText (s : CStr) : Text :=
  List.zipWith (fun (c e : Int) => (⟨c.toNat, e.toNat⟩ : Cell)) s.content s.errors

def absData (d : C_rdsparser_buffer_data) : Scalars :=
  ⟨d.pi, d.pty, d.tp, d.ta, d.ms, d.ecc, d.country, bitsOf d.af.buffer⟩

def absSet (r : C_librdsparser) : Settings :=
  { ext := r.buffer.extended_check != 0,
    progPs := getI r.progressive 0 != 0, progRt := getI r.progressive 1 != 0, progPtyn := getI r.progressive 2 != 0,
    psInfo := (getI (getL r.correction 0) 0).toNat, psData := (getI (getL r.correction 0) 1).toNat,
    rtInfo := (getI (getL r.correction 1) 0).toNat, rtData := (getI (getL r.correction 1) 1).toNat,
    ptynInfo := (getI (getL r.correction 2) 0).toNat, ptynData := (getI (getL r.correction 2) 1).toNat }

/-- `rdsparser_text_t` -/
def textIdx : TextId → Int
  | .ps => 0 | .rt => 1 | .ptyn => 2

/-- `rdsparser_block_type_t` -/
def typeIdx : BlockType → Int
  | .info => 0 | .data => 1

def absCbs (r : C_librdsparser) : List Bool :=
  [r.callback_pi != 0, r.callback_pty != 0, r.callback_tp != 0, r.callback_ta != 0, r.callback_ms != 0,
   r.callback_ecc != 0, r.callback_country != 0, r.callback_af != 0, r.callback_ps != 0, r.callback_rt != 0,
   r.callback_ptyn != 0, r.callback_ct != 0]

/-- the model state a C state denotes -/
def abs (r : C_librdsparser) : State :=
  { used := absData r.buffer.data_used, temp := absData r.buffer.data_temp, set := absSet r,
    ps := absText r.ps, rt0 := absText (getS r.rt 0), rt1 := absText (getS r.rt 1), ptyn := absText r.ptyn,
    termPs := r.ps.term.toNat, termRt0 := (getS r.rt 0).term.toNat, termRt1 := (getS r.rt 1).term.toNat,
    termPtyn := r.ptyn.term.toNat,
    lastRt := r.last_rt_flag, cbs := absCbs r, ud := r.user_data.toNat }

/-- a logged callback as a model event (`none` for a name/arity the model does not know) -/
def absEvent (e : CEvent C_librdsparser) : Option Event :=
  let mk (k : EvKind) (ud : Int) : Option Event := some ⟨k, ud.toNat, abs e.snap⟩
  match e.name, e.args with
  | "pi", [ud] => mk .pi ud | "pty", [ud] => mk .pty ud | "tp", [ud] => mk .tp ud | "ta", [ud] => mk .ta ud
  | "ms", [ud] => mk .ms ud | "ecc", [ud] => mk .ecc ud | "country", [ud] => mk .country ud
  | "af", [f, ud] => mk (.af f.toNat) ud
  | "ps", [ud] => mk .ps ud | "rt", [fl, ud] => mk (.rt fl.toNat) ud | "ptyn", [ud] => mk .ptyn ud
  | "ct", [y, mo, d, h, mi, off, ud] => mk (.ct ⟨y, mo, d, h, mi, off * 30⟩) ud
  | _, _ => none

def absLog (log : CLog) : List Event := log.filterMap absEvent

def StrOk (s : CStr) (cap : Nat) : Prop :=
  s.size = cap ∧ s.content.length = cap ∧ s.errors.length = cap ∧ s.term = 0 ∧
  (∀ c ∈ s.content, 0 ≤ c) ∧ (∀ e ∈ s.errors, 0 ≤ e ∧ e < 256)

namespace StrOk
variable {s : CStr} {cap : Nat}
theorem size (h : StrOk s cap) : s.size = cap :=
  h.1
theorem content_len (h : StrOk s cap) : s.content.length = cap :=
  h.2.1
theorem errors_len (h : StrOk s cap) : s.errors.length = cap :=
  h.2.2.1
theorem term (h : StrOk s cap) : s.term = 0 :=
  h.2.2.2.1
theorem content_nonneg (h : StrOk s cap) : ∀ c ∈ s.content, 0 ≤ c :=
  h.2.2.2.2.1
theorem errors_range (h : StrOk s cap) : ∀ e ∈ s.errors, 0 ≤ e ∧ e < 256 :=
  h.2.2.2.2.2
end StrOk

theorem StrOk.replicate (cap : Nat) {c e : Int} (hc : 0 ≤ c) (he : 0 ≤ e ∧ e < 256) :
    StrOk ⟨cap, List.replicate cap c, 0, List.replicate cap e⟩ cap :=
  ⟨rfl, List.length_replicate, List.length_replicate, rfl, List.forall_mem_replicate.2 (.inr hc),
    List.forall_mem_replicate.2 (.inr he)⟩

def DataOk (d : C_rdsparser_buffer_data) : Prop :=
  -1 ≤ d.pi ∧ d.pi < 65536 ∧ -1 ≤ d.pty ∧ d.pty < 32 ∧ -1 ≤ d.tp ∧ d.tp < 2 ∧ -1 ≤ d.ta ∧ d.ta < 2 ∧
  -1 ≤ d.ms ∧ d.ms < 2 ∧ -1 ≤ d.ecc ∧ d.ecc < 256 ∧ 0 ≤ d.country ∧ d.country < 256 ∧
  d.af.buffer.length = 26 ∧ ∀ x ∈ d.af.buffer, 0 ≤ x ∧ x < 256

/-! `DataOk` is the bounds of the seven scalars and the shape of the AF bitmap; the proofs read and build it through
this split. (The names `tb_…` of this file are those the macro `tb_field_tac`, `TransBuffer.lean`, spells out.) -/

def tb_AfOk (a : C_rdsparser_af) : Prop := a.buffer.length = 26 ∧ ∀ x ∈ a.buffer, 0 ≤ x ∧ x < 256

def tb_ScalOk (d : C_rdsparser_buffer_data) : Prop :=
  -1 ≤ d.pi ∧ d.pi < 65536 ∧ -1 ≤ d.pty ∧ d.pty < 32 ∧ -1 ≤ d.tp ∧ d.tp < 2 ∧ -1 ≤ d.ta ∧ d.ta < 2 ∧
  -1 ≤ d.ms ∧ d.ms < 2 ∧ -1 ≤ d.ecc ∧ d.ecc < 256 ∧ 0 ≤ d.country ∧ d.country < 256

theorem tb_dataOk_iff (d : C_rdsparser_buffer_data) : DataOk d ↔ tb_ScalOk d ∧ tb_AfOk d.af := by
  simp only [DataOk, tb_ScalOk, tb_AfOk, and_assoc]

theorem DataOk.scal {d : C_rdsparser_buffer_data} (h : DataOk d) : tb_ScalOk d :=
  ((tb_dataOk_iff d).1 h).1
theorem DataOk.af {d : C_rdsparser_buffer_data} (h : DataOk d) : tb_AfOk d.af :=
  ((tb_dataOk_iff d).1 h).2
theorem DataOk.pi {d : C_rdsparser_buffer_data} (h : DataOk d) : -1 ≤ d.pi ∧ d.pi < 65536 :=
  ⟨h.1, h.2.1⟩

structure CInv (r : C_librdsparser) : Prop where
  used : DataOk r.buffer.data_used
  temp : DataOk r.buffer.data_temp
  ext : r.buffer.extended_check = 0 ∨ r.buffer.extended_check = 1
  ps : StrOk r.ps 8
  rtLen : r.rt.length = 2
  rt0 : StrOk (getS r.rt 0) 64
  rt1 : StrOk (getS r.rt 1) 64
  ptyn : StrOk r.ptyn 8
  progLen : r.progressive.length = 3
  prog : ∀ x ∈ r.progressive, x = 0 ∨ x = 1
  corrLen : r.correction.length = 3
  corr : ∀ row ∈ r.correction, row.length = 2 ∧ ∀ x ∈ row, 0 ≤ x ∧ x ≤ 2
  lastRt : r.last_rt_flag = -1 ∨ r.last_rt_flag = 0 ∨ r.last_rt_flag = 1
  ud : 0 ≤ r.user_data

/-- two C states agree on every field the abstraction and the invariant look at (a field the library may gain later —
a counter, a cache — is not one of them) -/
def SameModelled (x y : C_librdsparser) : Prop :=
  x.buffer = y.buffer ∧ x.ps = y.ps ∧ x.rt = y.rt ∧ x.ptyn = y.ptyn ∧ x.progressive = y.progressive ∧
  x.correction = y.correction ∧ x.user_data = y.user_data ∧ x.last_rt_flag = y.last_rt_flag ∧
  x.callback_pi = y.callback_pi ∧ x.callback_pty = y.callback_pty ∧ x.callback_tp = y.callback_tp ∧
  x.callback_ta = y.callback_ta ∧ x.callback_ms = y.callback_ms ∧ x.callback_ecc = y.callback_ecc ∧
  x.callback_country = y.callback_country ∧ x.callback_af = y.callback_af ∧ x.callback_ps = y.callback_ps ∧
  x.callback_rt = y.callback_rt ∧ x.callback_ptyn = y.callback_ptyn ∧ x.callback_ct = y.callback_ct

theorem SameModelled.abs_eq {x y : C_librdsparser} (h : SameModelled x y) : abs x = abs y := by
  -- `abs` reads `x` through the fields that `h` equates
  unfold SameModelled at h
  simp only [abs, absSet, absCbs, h]

/-- a state that differs from `r` in its callback slots only -/
theorem CInv.callbacks {r x : C_librdsparser} (hI : CInv r) (h1 : x.buffer = r.buffer) (h2 : x.ps = r.ps) (h3 : x.rt = r.rt)
    (h4 : x.ptyn = r.ptyn) (h5 : x.progressive = r.progressive) (h6 : x.correction = r.correction)
    (h7 : x.user_data = r.user_data) (h8 : x.last_rt_flag = r.last_rt_flag) :
    abs x = { abs r with cbs := absCbs x } ∧ CInv x := by
  refine ⟨?_, h1 ▸ hI.used, h1 ▸ hI.temp, h1 ▸ hI.ext, h2 ▸ hI.ps, h3 ▸ hI.rtLen, h3 ▸ hI.rt0, h3 ▸ hI.rt1, h4 ▸ hI.ptyn,
    h5 ▸ hI.progLen, h5 ▸ hI.prog, h6 ▸ hI.corrLen, h6 ▸ hI.corr, h8 ▸ hI.lastRt, h7 ▸ hI.ud⟩
  simp only [abs, absSet, h1, h2, h3, h4, h5, h6, h7, h8]

theorem SameModelled.inv {x y : C_librdsparser} (h : SameModelled x y) (hy : CInv y) : CInv x := by
  obtain ⟨h1, h2, h3, h4, h5, h6, h7, h8, _⟩ := h
  exact (hy.callbacks h1 h2 h3 h4 h5 h6 h7 h8).2

theorem tb_inv_of_buffer (r : C_librdsparser) (b : C_rdsparser_buffer) (hI : CInv r)
    (hu : DataOk b.data_used) (ht : DataOk b.data_temp) (he : b.extended_check = r.buffer.extended_check) :
    CInv { r with buffer := b } :=
  { hI with used := hu, temp := ht, ext := he ▸ hI.ext }

theorem CInv.of_settings {r : C_librdsparser} (hI : CInv r) (p : List Int) (c : List (List Int))
    (hpl : p.length = 3) (hp : ∀ x ∈ p, x = 0 ∨ x = 1)
    (hcl : c.length = 3) (hc : ∀ row ∈ c, row.length = 2 ∧ ∀ x ∈ row, 0 ≤ x ∧ x ≤ 2) :
    CInv { r with progressive := p, correction := c } :=
  { hI with progLen := hpl, prog := hp, corrLen := hcl, corr := hc }

theorem CInv.of_lastRt {r : C_librdsparser} (hI : CInv r) (v : Int) (hv : v = -1 ∨ v = 0 ∨ v = 1) :
    CInv { r with last_rt_flag := v } :=
  { hI with lastRt := hv }

theorem CInv.of_rt {r : C_librdsparser} (hI : CInv r) (l : List CStr) (hl : l.length = 2)
    (h0 : StrOk (getS l 0) 64) (h1 : StrOk (getS l 1) 64) : CInv { r with rt := l } :=
  { hI with rtLen := hl, rt0 := h0, rt1 := h1 }

theorem CInv.corrRow {r : C_librdsparser} (hI : CInv r) (t : TextId) :
    (getL r.correction (textIdx t)).length = 2 ∧ ∀ x ∈ getL r.correction (textIdx t), 0 ≤ x ∧ x ≤ 2 := by
  obtain ⟨r0, r1, r2, hc⟩ := len3 r.correction hI.corrLen
  exact hI.corr _ (by rw [hc]; cases t <;> simp [getL, textIdx])

theorem CInv.progVal {r : C_librdsparser} (hI : CInv r) (t : TextId) :
    getI r.progressive (textIdx t) = 0 ∨ getI r.progressive (textIdx t) = 1 :=
  forall_getD hI.prog (Or.inl rfl) _

/-! PS, PTYN and the two RadioTexts are updated by the same code: `rdsparser_parser_update_string` on the buffer, once or
twice, OR-ing the results into `changed`, then the callback if `changed`. `Slot` names the buffer; what is proved about
such a run (`tg_TR`, `TransString.lean`) is proved for a variable slot. -/

/-- `rds->rt[f] = s` -/
def cSetRt (r : C_librdsparser) (fl : Int) (s : CStr) : C_librdsparser := { r with rt := listSet r.rt fl s }

@[simp]
theorem tg_setRt_set (s : State) (f : Nat) (a : Text) : (s.setRt f a).set = s.set :=
  setRt_set s f a

@[simp]
theorem tg_setRt_rt (s : State) (f : Nat) (a : Text) : (s.setRt f a).rt f = a :=
  setRt_rt_same s f a

inductive Slot | ps | ptyn | rt (f : Nat)

namespace Slot

def Ok : Slot → Prop
  | rt f => f < 2 | _ => True

def cap : Slot → Nat
  | rt _ => 64 | _ => 8

def id : Slot → TextId
  | ps => .ps | rt _ => .rt | ptyn => .ptyn

def get (r : C_librdsparser) : Slot → CStr
  | ps => r.ps | ptyn => r.ptyn | rt f => getS r.rt (f : Int)

def put (r : C_librdsparser) : Slot → CStr → C_librdsparser
  | ps, s => { r with ps := s } | ptyn, s => { r with ptyn := s } | rt f, s => cSetRt r (f : Int) s

def mget (m : State) : Slot → Text
  | ps => m.ps | ptyn => m.ptyn | rt f => m.rt f

def mput (m : State) : Slot → Text → State
  | ps, t => { m with ps := t } | ptyn, t => { m with ptyn := t } | rt f, t => m.setRt f t

/-- a valid slot is one of the four buffers -/
theorem four {P : Slot → Prop} (hps : P ps) (hptyn : P ptyn) (h0 : P (rt 0)) (h1 : P (rt 1)) : (sl : Slot) → sl.Ok → P sl
  | ps, _ => hps
  | ptyn, _ => hptyn
  | rt 0, _ => h0
  | rt 1, _ => h1
  | rt (_ + 2), h => absurd h (by simp [Ok])

theorem strOk {r : C_librdsparser} (hI : CInv r) : ∀ sl : Slot, sl.Ok → StrOk (sl.get r) sl.cap :=
  four hI.ps hI.ptyn hI.rt0 hI.rt1

theorem abs_get (r : C_librdsparser) : ∀ sl : Slot, sl.Ok → absText (sl.get r) = sl.mget (abs r) :=
  four rfl rfl rfl rfl

/-- `abs` reads the terminator slots too; they are 0 in every well-formed string -/
theorem abs_put {r : C_librdsparser} (hI : CInv r) (s : CStr) :
    ∀ sl : Slot, sl.Ok → StrOk s sl.cap → abs (sl.put r s) = sl.mput (abs r) (absText s) := by
  obtain ⟨e00, e01, e10, e11⟩ := getS_listSet_two r.rt hI.rtLen s
  refine four (fun hs => ?_) (fun hs => ?_) (fun hs => ?_) (fun hs => ?_)
  · simp only [put, mput, abs, absSet, absCbs, hs.term, hI.ps.term]
  · simp only [put, mput, abs, absSet, absCbs, hs.term, hI.ptyn.term]
  · show abs (cSetRt r 0 s) = (abs r).setRt 0 (absText s)
    simp only [cSetRt, abs, absSet, absCbs, State.setRt, if_true, e00, e01, hs.term, hI.rt0.term]
  · show abs (cSetRt r 1 s) = (abs r).setRt 1 (absText s)
    simp only [cSetRt, abs, absSet, absCbs, State.setRt, Nat.one_ne_zero, if_false, e10, e11, hs.term, hI.rt1.term]

theorem inv_put {r : C_librdsparser} (hI : CInv r) (s : CStr) : ∀ sl : Slot, sl.Ok → StrOk s sl.cap → CInv (sl.put r s) := by
  obtain ⟨e00, e01, e10, e11⟩ := getS_listSet_two r.rt hI.rtLen s
  have hl (f : Int) : (listSet r.rt f s).length = 2 := (length_listSet r.rt f s).trans hI.rtLen
  exact four (fun hs => { hI with ps := hs }) (fun hs => { hI with ptyn := hs })
    (fun hs => hI.of_rt (listSet r.rt 0 s) (hl 0) (e00.symm ▸ hs) (e01.symm ▸ hI.rt1))
    (fun hs => hI.of_rt (listSet r.rt 1 s) (hl 1) (e10.symm ▸ hI.rt0) (e11.symm ▸ hs))

theorem mput_set (m : State) : (sl : Slot) → (t : Text) → (sl.mput m t).set = m.set
  | ps, _ => rfl
  | ptyn, _ => rfl
  | rt f, t => setRt_set m f t

theorem mget_mput (m : State) : (sl : Slot) → (t : Text) → sl.mget (sl.mput m t) = t
  | ps, _ => rfl
  | ptyn, _ => rfl
  | rt f, t => setRt_rt_same m f t

theorem mput_mput (m : State) : (sl : Slot) → (a b : Text) → sl.mput (sl.mput m a) b = sl.mput m b
  | ps, _, _ => rfl
  | ptyn, _, _ => rfl
  | rt f, a, b => by
    show (m.setRt f a).setRt f b = m.setRt f b
    unfold State.setRt; split <;> rfl

theorem mput_mget (m : State) : (sl : Slot) → sl.mput m (sl.mget m) = m
  | ps => rfl
  | ptyn => rfl
  | rt f => setRt_self m f

end Slot

theorem tb_absLog_snoc (log : CLog) (e : CEvent C_librdsparser) :
    absLog (log ++ [e]) = absLog log ++ (absEvent e).toList := by
  unfold absLog
  rw [List.filterMap_append]
  cases h : absEvent e <;> simp [List.filterMap, h]

theorem tb_emit (s : State) (c : Cb) (k : EvKind) :
    emit s c k = if s.cbs.getD c.idx false then [⟨k, s.ud, s⟩] else [] := rfl

theorem absLog_emit (log : CLog) (cb : Int) (e : CEvent C_librdsparser) (s : State) (c : Cb) (k : EvKind)
    (hcb : (cb != 0) = s.registered c) (hev : absEvent e = some ⟨k, s.ud, s⟩) :
    absLog (if (cb != 0) = true then log ++ [e] else log) = absLog log ++ emit s c k := by
  unfold emit
  rw [← hcb]
  cases cb != 0
  · exact (List.append_nil _).symm
  · rw [if_pos rfl, if_pos rfl, tb_absLog_snoc, hev]; rfl

/-- `out` (C state and log after a call that started with log `log`) denotes the model result `m` -/
def tg_Ref (log : CLog) (out : C_librdsparser × CLog) (m : State × List Event) : Prop :=
  abs out.1 = m.1 ∧ absLog out.2 = absLog log ++ m.2 ∧ CInv out.1

theorem tg_Ref_refl (r : C_librdsparser) (log : CLog) (hI : CInv r) : tg_Ref log (r, log) (abs r, []) :=
  ⟨rfl, by simp, hI⟩

/-- sequence: a second call, made in the state `out1.1` the first one left, against the model's continuation `f` -/
theorem tg_Ref_then {log : CLog} {out1 out2 : C_librdsparser × CLog} {m1 : State × List Event}
    (f : State → State × List Event)
    (h1 : tg_Ref log out1 m1) (h2 : CInv out1.1 → tg_Ref out1.2 out2 (f (abs out1.1))) :
    tg_Ref log out2 ((f m1.1).1, m1.2 ++ (f m1.1).2) := by
  obtain ⟨a, l, i⟩ := h2 h1.2.2
  rw [h1.1] at a l
  exact ⟨a, by rw [l, h1.2.1, List.append_assoc], i⟩

theorem tg_Ref_ite {log : CLog} {p : Prop} [Decidable p] {b : Bool} (hb : b = decide p)
    {o1 o2 : C_librdsparser × CLog} {m1 m2 : State × List Event}
    (h1 : p → tg_Ref log o1 m1) (h2 : ¬ p → tg_Ref log o2 m2) :
    tg_Ref log (if b = true then o1 else o2) (if p then m1 else m2) := by
  subst hb
  by_cases h : p
  · rw [if_pos h, if_pos (decide_eq_true h)]; exact h1 h
  · rw [if_neg h, if_neg (by simpa using h)]; exact h2 h

/-! `tg_Step c h`: the C procedure `c` refines the model handler `h` in every state. Handlers in sequence are `seq`
(`RdsProofs/Anatomy.lean`), which is also how `Pieces` writes the model's handlers; so a translated handler, unfolded, is a
composition by the rules below, and the model's handler is the same composition.
A composition is written `exact (… :)`, elaborated on its own and then compared with the unfolded C function: elaborated
against the goal, `seq` makes the unifier search the C body for the two calls. The C function is unfolded by
`simp only [c_…, Prod.eta]`: every block of the translation ends by pairing state and log again, `(t.1, t.2)`, and against
such a pair the comparison is made once per component, so twice per nesting level.

Which way to prove that a translated handler refines the model's depends on what the handler does:
* every call's arguments are known before the handler runs (setters fed with fields of the group): a `tg_Step`
  composition, `tg_Step.seq/ite/skip` over `tg_Step.setField/addAf` (`TransBuffer.lean`). To copy: `tg_group_parse`
  (`TransGroupsBase.lean`).
* an argument is read from the state an earlier call left (`group1`: the country from the PI after `set_ecc`), or the
  branches are whole handlers: `tg_Ref_then` / `tg_Ref_ite` by hand, the continuation a function of the intermediate
  state. To copy: `tg_group1` (`TransGroupsBase.lean`), `process_refines` (`TransGroups.lean`).
* a text buffer is updated (`rdsparser_parser_update_string` once or twice, then the callback): a `tg_TR` chain
  `init / step / or / … / emit` (`TransString.lean`). To copy: `tg_group10` (`TransGroupsText.lean`).
A setter of the buffered data is proved once for all seven fields on a hand-written lens: `cSetVia_refines`
(`TransBuffer.lean`).

Where a proof needs a part of a translated function as a term of its own, the part is copied by hand into a definition
(`tg_eccCore`, `tg_c2toggle`, `tg_c2upd`, `tg_cPs`, `cSetVia`, `tb_pre`) and tied to the generated text by a lemma that
names the C function and needs little more than unfolding; a loop body or expression pasted into a statement (`ts_tree`,
`ts_single`, `ts_clear_fold`, `tb_af_clear_fold`, `tu_xdigit_loop`, `tb_clamp`) is tied by the `rw`/`simp only` of its
one user. Each says which. When the tie fails after a change to the C source, re-paste from `RdsC/Translated.lean` first,
then repair the lemmas about the copy.

`tools/refine.py` sets a failed proof aside by cutting the declaration at the first `:=` that ends a line or stands
before `by`, and books the failure to the properties owning the C functions that the cut-off STATEMENT names. Hence, in
`Trans*.lean`: no `:=` at a line end inside a statement (a `let` there carries its value on the same line), a term proof
starts on the line after `:=`, an attribute stands on the line above `theorem`, and a theorem about a C function names
it in its statement. -/

def tg_Step (c : C_librdsparser → CLog → C_librdsparser × CLog) (h : State → State × List Event) : Prop :=
  ∀ r log, CInv r → tg_Ref log (c r log) (h (abs r))

section
variable {c1 c2 : C_librdsparser → CLog → C_librdsparser × CLog} {h1 h2 : State → State × List Event}

theorem tg_Step.skip : tg_Step (fun r log => (r, log)) (fun s => (s, [])) :=
  tg_Ref_refl

theorem tg_Step.seq (s1 : tg_Step c1 h1) (s2 : tg_Step c2 h2) :
    tg_Step (fun r log => c2 (c1 r log).1 (c1 r log).2) (seq h1 h2) :=
  fun r log hI => tg_Ref_then h2 (s1 r log hI) (s2 _ _)

theorem tg_Step.ite {p : Prop} [Decidable p] {b : Bool} (hb : b = decide p) (s1 : tg_Step c1 h1) (s2 : tg_Step c2 h2) :
    tg_Step (fun r log => if b = true then c1 r log else c2 r log) (fun s => if p then h1 s else h2 s) :=
  fun r log hI => tg_Ref_ite hb (fun _ => s1 r log hI) (fun _ => s2 r log hI)

end

end RDS.C
