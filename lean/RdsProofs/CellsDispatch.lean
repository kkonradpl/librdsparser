import RdsProofs.Handlers
import RdsProofs.CellsExpected
import RdsProofs.CellsAddressed
/-!
# RdsProofs.CellsDispatch — the four texts after `process` are `expectedText`

On the state alone: `State.expText` is `expectedText` with the model's `g2clr` and `g2noisy` for the monitor's
`switchDiscard` and `rtNoisy` (`expectedText_eq_expText`, given that the monitor knows the last RT flag). Handler by
handler (`group0_text`, `group2_text`, `group10_text`), then `dispatch_text`, `process_expText`, and `process_text`.
-/
namespace RDS

theorem obs_text_cells (s : State) (t : Nat) : ((Obs.ofState s).text t).cells = s.text t := by
  match t with
  | 0 => rfl
  | 1 => rfl
  | 2 => rfl
  | _ + 3 => rfl

theorem textIdOf_rt (f : Nat) (hf : f < 2) : textIdOf (1 + f) = .rt := by
  match f, hf with
  | 0, _ | 1, _ => rfl

theorem switchDiscard_ne2 (m : Mon) (before : Obs) (g : Group) (h : g.type ≠ 2) :
    switchDiscard m before g = false := by simp [switchDiscard, h]

theorem rtNoisy_ne2 (m : Mon) (g : Group) (h : g.type ≠ 2) : rtNoisy m g = false := by
  simp [rtNoisy, h]

theorem rtNoisy_eb (m : Mon) (g : Group) (h : rtNoisy m g = true) : g.eb ≠ 0 := by
  intro heb
  simp [rtNoisy, heb] at h

theorem rtNoisy_switchDiscard (m : Mon) (before : Obs) (g : Group) (h : rtNoisy m g = true) :
    switchDiscard m before g = false := by
  have heb := rtNoisy_eb m g h
  simp [switchDiscard, heb]

theorem expectedText_keep (cfg : Cfg) (m : Mon) (before : Obs) (g : Group) (t : Nat)
    (hsd : (switchDiscard m before g && decide (t = 1 + g.b / 16 % 2)) = false)
    (haddr : rtNoisy m g = true ∨ (addressed g).filter (fun a => a.1 = t) = []) :
    expectedText cfg m before g t = (before.text t).cells := by
  rw [expectedText_eq, hsd]
  rcases haddr with h | h
  · simp [h, expCells_nil]
  · simp [h, expCells_nil]

theorem switchDiscard_eq_clr (m : Mon) (s : State) (g : Group) (hlf : m.lastFlag = s.lastRt)
    (h2 : g.type = 2) : switchDiscard m (Obs.ofState s) g = g2clr s g := by
  have hlt : g.b / 16 % 2 < 2 := Nat.mod_lt _ (by decide)
  unfold switchDiscard g2clr
  rw [obs_text_cells, text_rt _ _ hlt, hlf]
  simp only [h2, decide_true, Bool.true_and]
  generalize decide (g.eb = 0) = a
  generalize (((g.b / 16 % 2 : Nat) : Int) != s.lastRt) = b
  generalize (s.lastRt != -1) = c
  generalize getAvailable (s.rt (g.b / 16 % 2)) = d
  cases a <;> cases b <;> cases c <;> cases d <;> rfl

theorem rtNoisy_g2noisy {m : Mon} {s : State} (g : Group) (hlf : m.lastFlag = s.lastRt) :
    rtNoisy m g = (decide (g.type = 2) && g2noisy s g) := by
  unfold rtNoisy g2noisy
  rw [hlf]
  simp only [Bool.and_assoc]

/-- `expectedText` read on the state alone: `g2clr` for `switchDiscard`, `g2noisy` for `rtNoisy` -/
def State.expText (cfg : Cfg) (s : State) (g : Group) (t : Nat) : Text :=
  expCells cfg s.set (textIdOf t) g.eb
    (if g.type = 2 && g2clr s g && t = 1 + g.b / 16 % 2 then (s.text t).cleared else s.text t)
    (if g.type = 2 && g2noisy s g then [] else (addressed g).filter (fun a => a.1 = t))

theorem switchDiscard_g2clr {m : Mon} {s : State} (g : Group) (hlf : m.lastFlag = s.lastRt) :
    switchDiscard m (Obs.ofState s) g = (decide (g.type = 2) && g2clr s g) := by
  by_cases h2 : g.type = 2
  · rw [switchDiscard_eq_clr m s g hlf h2, decide_eq_true h2, Bool.true_and]
  · rw [switchDiscard_ne2 m _ g h2, decide_eq_false h2, Bool.false_and]

theorem expectedText_eq_expText (cfg : Cfg) (m : Mon) (s : State) (g : Group) (hlf : m.lastFlag = s.lastRt)
    (t : Nat) : expectedText cfg m (Obs.ofState s) g t = s.expText cfg g t := by
  rw [expectedText_eq, switchDiscard_g2clr g hlf, rtNoisy_g2noisy g hlf, obs_text_cells]
  rfl

theorem expText_ne2 {cfg : Cfg} {s : State} {g : Group} {t : Nat} (h2 : g.type ≠ 2) :
    s.expText cfg g t = expCells cfg s.set (textIdOf t) g.eb (s.text t) ((addressed g).filter (fun a => a.1 = t)) := by
  unfold State.expText
  rw [decide_eq_false h2]
  rfl

theorem group0_text (cfg : Cfg) (s : State) (g : Group) (h0 : g.type = 0) (t : Nat) :
    (group0 cfg s g).1.text t = s.expText cfg g t := by
  rw [expText_ne2 (by omega), addressed_type0 g h0]
  match t with
  | 0 =>
    rw [filter_blockCells_same, expCells_two]
    exact group0_ps cfg s g
  | t + 1 =>
    rw [filter_blockCells_ne (Nat.succ_ne_zero t).symm, expCells_nil]
    exact group0_text_succ cfg s g t

theorem group2_text (cfg : Cfg) (s : State) (g : Group) (h2 : g.type = 2) (t : Nat) :
    (group2 cfg s g).1.text t = s.expText cfg g t := by
  have hlt : g.b / 16 % 2 < 2 := Nat.mod_lt _ (by decide)
  unfold State.expText
  rw [group2_eq, g2noisy_eq, apply_ite Prod.fst, decide_eq_true h2, Bool.true_and, Bool.true_and]
  by_cases htf : t = 1 + g.b / 16 % 2
  · -- the buffer of the group's flag: `g2s2` has made the discard; unless noisy, the group's blocks follow
    subst htf
    rw [decide_eq_true rfl, Bool.and_true, text_rt _ _ hlt, text_rt s _ hlt, textIdOf_rt _ hlt, ← g2s2_rt_same]
    cases g2noisy s g
    · rw [if_neg Bool.false_ne_true, if_neg Bool.false_ne_true, ← g2s2_set s g]
      show ((g2s2 s g).setRt _ _).rt _ = _
      rw [setRt_rt_same]
      unfold g2u
      cases hv : g.versionB
      · rw [addressed_type2A g h2 hv, List.filter_append, filter_blockCells_same, filter_blockCells_same,
          expCells_four]
        rfl
      · rw [addressed_type2B g h2 hv, filter_blockCells_same, expCells_two]
        rfl
    · rw [if_pos rfl, if_pos rfl, expCells_nil]
  · -- every other text: neither written nor addressed
    have hne : (addressed g).filter (fun a => a.1 = t) = [] := List.filter_eq_nil_iff.mpr fun a ha => by
      rw [decide_eq_true_eq, addressed_type2_text g h2 a ha]
      exact Ne.symm htf
    rw [decide_eq_false htf, Bool.and_false, if_neg Bool.false_ne_true, hne, ite_self, expCells_nil]
    split
    · exact g2s2_text_ne s g t htf
    · show ((g2s2 s g).setRt _ _).text t = _
      rw [setRt_text_ne hlt htf, g2s2_text_ne s g t htf]

theorem group10_text (cfg : Cfg) (s : State) (g : Group) (h10 : g.type = 10) (t : Nat) (ht : t < 4) :
    (group10 cfg s g).1.text t = s.expText cfg g t := by
  rw [expText_ne2 (by omega)]
  cases hv : g.versionB
  · rw [addressed_type10A g h10 hv, List.filter_append]
    by_cases ht3 : t = 3
    · subst ht3
      rw [filter_blockCells_same, filter_blockCells_same, expCells_four]
      exact group10_ptyn_A _ _ _ hv
    · rw [filter_blockCells_ne (Ne.symm ht3), filter_blockCells_ne (Ne.symm ht3), List.append_nil,
        expCells_nil]
      exact group10_text_lt cfg s g (by omega)
  · rw [addressed_other g (by omega) (by omega) fun _ => hv, List.filter_nil, expCells_nil, group10_B _ _ _ hv]

theorem dispatch_text (cfg : Cfg) (s : State) (g : Group) (t : Nat) (ht : t < 4) :
    (dispatch cfg s g).1.text t = s.expText cfg g t := by
  have other : g.type ≠ 0 → g.type ≠ 2 → g.type ≠ 10 → s.text t = s.expText cfg g t := fun h0 h2 h10 => by
    rw [expText_ne2 h2, addressed_other g h0 h2 fun h => absurd h h10, List.filter_nil, expCells_nil]
  exact dispatch_cases (P := fun r => r.1.text t = s.expText cfg g t) cfg s g
    (fun h0 => group0_text cfg s g h0 t)
    (fun h1 => (group1_text cfg s g t).trans (other (by omega) (by omega) (by omega)))
    (fun h2 => group2_text cfg s g h2 t)
    (fun h4 => by rw [group4_fst]; exact other (by omega) (by omega) (by omega))
    (fun h10 => group10_text cfg s g h10 t ht)
    (fun h0 _ h2 _ h10 => other h0 h2 h10)

/-- the four texts after a delivered group, on the state alone -/
theorem process_expText (cfg : Cfg) (s : State) (g : Group) (t : Nat) (ht : t < 4) :
    (process cfg s g).1.text t = s.expText cfg g t :=
  (dispatch_text cfg (groupCommon s g).1 g t ht).trans
    (congrArg (fun x : State => x.expText cfg g t) (groupCommon_noBuf s g) :)

theorem process_text (cfg : Cfg) (m : Mon) (s : State) (g : Group) (hlf : m.lastFlag = s.lastRt)
    (hps : s.ps.length = 8) (hr0 : s.rt0.length = 64) (hr1 : s.rt1.length = 64)
    (hpt : s.ptyn.length = 8) (t : Nat) (ht : t < 4) :
    (process cfg s g).1.text t = expectedText cfg m (Obs.ofState s) g t :=
  (process_expText cfg s g t ht).trans (expectedText_eq_expText cfg m s g hlf t).symm

end RDS
