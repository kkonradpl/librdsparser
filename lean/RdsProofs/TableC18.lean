import RdsProofs.TableBase
/-!
# RdsProofs.TableC18 — kernel-checked theorems about the PTY and country lookups (C18)

Whole-table facts evaluated by the kernel, lifted to `∀` by the `tbl_…` lemmas of `RdsProofs.TableBase` (see there).
-/

namespace RDS
open RDS.TableCheck

theorem tbl_pty_table (t : Reference.PtyTbl) (rbds : Bool) :
    genPty t rbds = (Reference.pty t rbds).map some ++
      List.replicate (256 - (Reference.pty t rbds).length) (some "Unknown") := by
  cases t <;> cases rbds <;> exact eq_of_beq (by decide +kernel)

/-- all six PTY lookups, all 256 arguments (index = argument mod 256): the reference entry for
0..31, "Unknown" otherwise, never NULL -/
theorem C18_pty (t : Reference.PtyTbl) (rbds : Bool) : ∀ a, a < 256 →
    (genPty t rbds).getD a none =
      some (if a < 32 then (Reference.pty t rbds).getD a "!!" else "Unknown") := by
  intro a ha
  have hlen : (Reference.pty t rbds).length = 32 := tbl_reference_shape.2.2.2.2.2 t rbds
  rw [tbl_getD_of_eq_map_append "Unknown" (tbl_pty_table t rbds) a (by rw [hlen]; exact ha)]
  simp only [List.getD_eq_getElem?_getD]
  split
  · next h => rw [List.getElem?_eq_getElem (by rw [hlen]; exact h)]; rfl
  · next h => rw [List.getElem?_eq_none (by rw [hlen]; omega)]; rfl

theorem C18_pty_name_rds : ∀ a, a < 256 → Generated.ptyNameRds.getD a none =
    some (if a < 32 then Reference.ptyRdsName.getD a "!!" else "Unknown") := C18_pty .name false
theorem C18_pty_short_rds : ∀ a, a < 256 → Generated.ptyShortRds.getD a none =
    some (if a < 32 then Reference.ptyRdsShort.getD a "!!" else "Unknown") := C18_pty .short false
theorem C18_pty_long_rds : ∀ a, a < 256 → Generated.ptyLongRds.getD a none =
    some (if a < 32 then Reference.ptyRdsLong.getD a "!!" else "Unknown") := C18_pty .long false
theorem C18_pty_name_rbds : ∀ a, a < 256 → Generated.ptyNameRbds.getD a none =
    some (if a < 32 then Reference.ptyRbdsName.getD a "!!" else "Unknown") := C18_pty .name true
theorem C18_pty_short_rbds : ∀ a, a < 256 → Generated.ptyShortRbds.getD a none =
    some (if a < 32 then Reference.ptyRbdsShort.getD a "!!" else "Unknown") := C18_pty .short true
theorem C18_pty_long_rbds : ∀ a, a < 256 → Generated.ptyLongRbds.getD a none =
    some (if a < 32 then Reference.ptyRbdsLong.getD a "!!" else "Unknown") := C18_pty .long true

theorem tbl_length_le_utf8ByteSize (s : String) : s.length ≤ s.utf8ByteSize := by
  induction s using String.push_induction with
  | empty => simp
  | push s c ih =>
    rw [String.length_push, String.utf8ByteSize_push]
    have := c.utf8Size_pos
    omega

/-- a width test counting bytes: the kernel gets the byte count of a literal from its UTF-8 encoding alone, the character
count only by decoding that again. Sufficient (`tbl_length_le_utf8ByteSize`), and the same thing for the ASCII texts of
the library. -/
def tbl_bytesOk (w : Nat) : Option String → Bool
  | some s => s.utf8ByteSize ≤ w
  | none => false

theorem tbl_width_of_bytesOk {w : Nat} {l : List (Option String)} (h : l.all (tbl_bytesOk w) = true)
    {a : Nat} {s : String} (hs : l.getD a none = some s) : s.length ≤ w := by
  rcases tbl_getD_mem_or_default l a none with hm | hm
  · have := List.all_eq_true.mp h _ hm
    rw [hs] at this
    exact Nat.le_trans (tbl_length_le_utf8ByteSize s) (by simpa [tbl_bytesOk] using this)
  · rw [hs] at hm; cases hm

/-- short names fit 8 characters and long names 16, RDS and RBDS, for every argument (including
the "Unknown" answers) -/
theorem C18_pty_width (rbds : Bool) : ∀ a s,
    ((genPty .short rbds).getD a none = some s → s.length ≤ 8) ∧
    ((genPty .long rbds).getD a none = some s → s.length ≤ 16) := by
  intro a s
  have h8 : (genPty .short rbds).all (tbl_bytesOk 8) = true := by
    cases rbds <;> decide +kernel
  have h16 : (genPty .long rbds).all (tbl_bytesOk 16) = true := by
    cases rbds <;> decide +kernel
  exact ⟨tbl_width_of_bytesOk h8, tbl_width_of_bytesOk h16⟩

theorem tbl_country_names : Generated.countryName =
    Reference.countries.map (fun r => some r.2.1) ++
      List.replicate (256 - Reference.countries.length) (some "Unknown") :=
  eq_of_beq (by decide +kernel)

theorem tbl_countryRow_out (a : Nat) (h : a = 0 ∨ Generated.countryCount ≤ a) :
    Reference.countryRow a = (.unknown, "Unknown", "??") := by
  rcases h with rfl | hge
  · rfl
  · have : Reference.countries.length ≤ a := tbl_countries_length ▸ hge
    simp [Reference.countryRow, List.getD_eq_getElem?_getD, List.getElem?_eq_none this]

/-- the name lookup, all 256 arguments: the name of the enumerator for 1..countryCount−1,
"Unknown" for 0 and for ≥ countryCount; never NULL -/
theorem C18_country_name : ∀ a, a < 256 →
    Generated.countryName.getD a none = some (Reference.countryRow a).2.1 ∧
    ((a = 0 ∨ Generated.countryCount ≤ a) → Generated.countryName.getD a none = some "Unknown") := by
  intro a ha
  have h : Generated.countryName.getD a none = some (Reference.countryRow a).2.1 :=
    tbl_getD_of_eq_map_append (Reference.Country.unknown, "Unknown", "??") tbl_country_names a
      (by rw [tbl_countries_length]; exact ha) none
  exact ⟨h, fun hout => by rw [h, tbl_countryRow_out a hout]⟩

theorem tbl_row_mem_iso3166 (a : Nat) (h0 : 0 < a) (hc : a < Generated.countryCount) :
    (Reference.countryRow a).2 ∈ Reference.iso3166 := by
  have hlen : a < Reference.countries.length := by rw [tbl_countries_length]; exact hc
  have h1 : (Reference.countries.drop 1)[a - 1]? = some (Reference.countryRow a) := by
    rw [List.getElem?_drop, show 1 + (a - 1) = a by omega]
    simp [Reference.countryRow, List.getD_eq_getElem?_getD, List.getElem?_eq_getElem hlen]
  exact List.mem_map.mpr ⟨_, List.mem_of_getElem? h1, rfl⟩

/-- every in-range ISO result is two capital letters or the "--" placeholder -/
theorem C18_iso_two_letters : ∀ a, 0 < a → a < Generated.countryCount →
    ∃ s, Generated.countryIso.getD a none = some s ∧ Reference.isoShape s = true := by
  intro a h0 hc
  have hcc : Generated.countryCount = 221 := rfl
  have h := tbl_zipIdx_all (l := Generated.countryIso)
    (p := fun i o => i == 0 || decide (Generated.countryCount ≤ i) || shapeOk o)
    (by decide +kernel) a none (by rw [tbl_generated_lengths.2.2.2.1]; omega)
  have h1 : (a == 0) = false := by simp; omega
  have h2 : ¬ Generated.countryCount ≤ a := by omega
  simp only [h1, h2, decide_false, Bool.false_or] at h
  cases hs : Generated.countryIso.getD a none with
  | none => rw [hs] at h; cases h
  | some s => rw [hs] at h; exact ⟨s, rfl, h⟩

theorem tbl_clashesWith_complete (i c : Nat) (hc : c ≠ 0) :
    ∀ (ds : List Nat) (k n : Nat), ds[n]? = some c → Reference.sameCountry i (k + n) = false →
      (i, k + n) ∈ clashesWith i c ds k
  | [], _, _, h, _ => by simp at h
  | d :: ds, k, 0, h, hs => by
    have hd : d = c := by simpa using h
    subst hd
    have hs' : Reference.sameCountry i k = false := by simpa using hs
    simp [clashesWith, hc, hs']
  | d :: ds, k, n + 1, h, hs => by
    have ih := tbl_clashesWith_complete i c hc ds (k + 1) n (by simpa using h)
      (by rwa [show k + 1 + n = k + (n + 1) by omega])
    rw [show k + (n + 1) = k + 1 + n by omega]
    unfold clashesWith
    split
    · exact List.mem_cons_of_mem _ ih
    · exact ih

theorem tbl_clashes_complete (c : Nat) (hc : c ≠ 0) :
    ∀ (cs : List Nat) (b m n : Nat), m < n → cs[m]? = some c → cs[n]? = some c →
      Reference.sameCountry (b + m) (b + n) = false → (b + m, b + n) ∈ clashes cs b
  | [], _, _, _, _, h, _, _ => by simp at h
  | _ :: _, _, _, 0, hmn, _, _, _ => by omega
  | x :: cs, b, 0, n + 1, _, hm, hn, hs => by
    have hx : x = c := by simpa using hm
    subst hx
    have h := tbl_clashesWith_complete b x hc cs (b + 1) n (by simpa using hn)
      (by rwa [show b + 1 + n = b + (n + 1) by omega, ← Nat.add_zero b])
    rw [show b + (n + 1) = b + 1 + n by omega, Nat.add_zero]
    unfold clashes
    exact List.mem_append_left _ h
  | x :: cs, b, m + 1, n + 1, hmn, hm, hn, hs => by
    have ih := tbl_clashes_complete c hc cs (b + 1) m n (by omega) (by simpa using hm)
      (by simpa using hn)
      (by rwa [show b + 1 + m = b + (m + 1) by omega, show b + 1 + n = b + (n + 1) by omega])
    rw [show b + (m + 1) = b + 1 + m by omega, show b + (n + 1) = b + 1 + n by omega]
    unfold clashes
    exact List.mem_append_right _ ih

/-- what a proved clash list says about the ISO lookup: two different in-range arguments with the
same proper code (not "--") name the same country, unless the pair is in the list -/
theorem tbl_iso_distinct_of_clashes {D : List (Nat × Nat)}
    (h : isoClashes Generated.countryIso = D) :
    ∀ i j, 0 < i → i < j → j < Generated.countryCount →
      ∀ s, Generated.countryIso.getD i none = some s → Generated.countryIso.getD j none = some s →
        s ≠ "--" → (i, j) ∉ D → Reference.sameCountry i j = true := by
  intro i j h0 hij hj s hi hjs hne hD
  have hcc : Generated.countryCount = 221 := rfl
  have hlen := tbl_generated_lengths.2.2.2.1
  -- the code of `s` is a proper one
  obtain ⟨s', hs', hshape⟩ := C18_iso_two_letters i h0 (by omega)
  rw [hi] at hs'
  cases hs'
  have hcode : Reference.isoCode s ≠ 0 := by
    simp only [Reference.isoShape, Bool.or_eq_true, bne_iff_ne, beq_iff_eq] at hshape
    rcases hshape with h1 | h1
    · exact h1
    · exact absurd h1 hne
  -- position of argument `a` in the list of codes
  have hidx : ∀ a, 0 < a → a < Generated.countryCount → Generated.countryIso.getD a none = some s →
      (((Generated.countryIso.take Generated.countryCount).drop 1).map codeOf)[a - 1]? =
        some (Reference.isoCode s) := by
    intro a ha0 hac hsa
    have hal : a < Generated.countryIso.length := by omega
    have hget : Generated.countryIso[a]? = some (some s) := by
      have := hsa
      rw [List.getD_eq_getElem?_getD, List.getElem?_eq_getElem hal] at this
      rw [List.getElem?_eq_getElem hal]
      exact congrArg some (by simpa using this)
    rw [List.getElem?_map, List.getElem?_drop, show 1 + (a - 1) = a by omega,
      List.getElem?_take_of_lt hac, hget]
    rfl
  cases hsame : Reference.sameCountry i j with
  | true => rfl
  | false =>
    exfalso
    have hmem := tbl_clashes_complete (Reference.isoCode s) hcode _ 1 (i - 1) (j - 1) (by omega)
      (hidx i h0 (by omega) hi) (hidx j (by omega) hj hjs)
      (by rwa [show 1 + (i - 1) = i by omega, show 1 + (j - 1) = j by omega])
    rw [show 1 + (i - 1) = i by omega, show 1 + (j - 1) = j by omega] at hmem
    exact hD (h ▸ hmem)

/-- `clashes` compares all pairs; this scan is linear: `seen` is the bit set (a `Nat`, so the kernel
works on it with GMP) of the codes met so far, `pre` the (index, code) pairs met so far, and only
when a non-zero code is met again are the earlier entries compared with it -/
def tbl_scan : List Nat → Nat → Nat → List (Nat × Nat) → Bool
  | [], _, _, _ => true
  | c :: cs, j, seen, pre =>
    (c == 0 || !seen.testBit c || pre.all (fun p => p.2 != c || Reference.sameCountry p.1 j)) &&
      tbl_scan cs (j + 1) (seen ||| 1 <<< c) ((j, c) :: pre)

/-- Invariant: every code recorded in `pre` has its bit set in `seen`, so a repeated code always
triggers the comparison. Then no entry of `pre` clashes with anything in `cs`, nor `cs` within itself. -/
theorem tbl_scan_spec : ∀ (cs : List Nat) (j seen : Nat) (pre : List (Nat × Nat)),
    (∀ p ∈ pre, seen.testBit p.2 = true) → tbl_scan cs j seen pre = true →
    (∀ p ∈ pre, clashesWith p.1 p.2 cs j = []) ∧ clashes cs j = []
  | [], _, _, _, _, _ => ⟨fun _ _ => rfl, rfl⟩
  | c :: cs, j, seen, pre, hinv, h => by
    simp only [tbl_scan, Bool.and_eq_true] at h
    obtain ⟨hcheck, hrest⟩ := h
    have hinv' : ∀ p ∈ (j, c) :: pre, (seen ||| 1 <<< c).testBit p.2 = true := by
      intro p hp
      rw [Nat.testBit_or]
      rcases List.mem_cons.mp hp with rfl | hp
      · simp [Nat.one_shiftLeft, Nat.testBit_two_pow_self]
      · simp [hinv p hp]
    obtain ⟨ihpre, ihcs⟩ := tbl_scan_spec cs (j + 1) _ _ hinv' hrest
    constructor
    · -- an earlier entry `p` against `c :: cs`
      intro p hp
      have hnext := ihpre p (List.mem_cons_of_mem _ hp)
      unfold clashesWith
      split
      · next hcond =>
        exfalso
        simp only [Bool.and_eq_true, bne_iff_ne, beq_iff_eq, Bool.not_eq_true', ne_eq] at hcond
        obtain ⟨⟨hp0, hpc⟩, hdiff⟩ := hcond
        have hseen : seen.testBit c = true := hpc ▸ hinv p hp
        have hc0 : (c == 0) = false := by simpa using (hpc ▸ hp0 : c ≠ 0)
        simp only [hc0, hseen, Bool.not_true, Bool.or_false, Bool.false_or,
          List.all_eq_true] at hcheck
        have := hcheck p hp
        simp only [hpc, bne_self_eq_false, Bool.false_or] at this
        rw [this] at hdiff
        cases hdiff
      · exact hnext
    · -- `c` against the rest, and the rest within itself
      unfold clashes
      rw [ihpre (j, c) (List.mem_cons_self ..), ihcs]
      rfl

theorem tbl_scan_sound (cs : List Nat) (b : Nat) (h : tbl_scan cs b 0 [] = true) :
    clashes cs b = [] :=
  (tbl_scan_spec cs b 0 [] (fun _ hp => nomatch hp) h).2

/-- the reference ISO codes themselves are shared only inside an alias class (the eight
"Australia …" entries) -/
theorem tbl_reference_iso_distinct :
    clashes ((Reference.countries.drop 1).map (fun r => Reference.isoCode r.2.2)) 1 = [] :=
  tbl_scan_sound _ _ (by decide +kernel)


theorem tbl_country_iso : Generated.countryIso =
    Reference.countries.map (fun r => some r.2.2) ++
      List.replicate (256 - Reference.countries.length) (some "??") :=
  eq_of_beq (by decide +kernel)

/-- the ISO lookup, all 256 arguments: "??" out of range; in range the (name, code) pair returned
by the two lookups for the same argument is a row of `Reference.iso3166` -/
theorem C18_country_iso : ∀ a, a < 256 →
    if 0 < a ∧ a < Generated.countryCount then
      ∃ n c, Generated.countryName.getD a none = some n ∧ Generated.countryIso.getD a none = some c ∧
        (n, c) ∈ Reference.iso3166
    else Generated.countryIso.getD a none = some "??" := by
  intro a ha
  have hiso : Generated.countryIso.getD a none = Reference.expectedIso a :=
    tbl_getD_of_eq_map_append (Reference.Country.unknown, "Unknown", "??") tbl_country_iso a
      (by rw [tbl_countries_length]; exact ha) none
  split
  · next hr =>
    exact ⟨_, _, (C18_country_name a ha).1, hiso, tbl_row_mem_iso3166 a hr.1 hr.2⟩
  · next hr =>
    rw [hiso, Reference.expectedIso, tbl_countryRow_out a (by omega)]


/-- the lookup table is the reference column, so it inherits `tbl_reference_iso_distinct` -/
theorem tbl_iso_no_clashes : isoClashes Generated.countryIso = [] := by
  have hlen : (Reference.countries.map fun r => some r.2.2).length = Generated.countryCount := by
    rw [List.length_map, tbl_countries_length]; rfl
  rw [isoClashes, tbl_country_iso, List.take_left' hlen, ← List.map_drop, List.map_map]
  exact tbl_reference_iso_distinct

/-- two different in-range arguments with the same ISO code other than "--" name the same country
(only the eight "Australia …" entries share a code) -/
theorem C18_iso_distinct : ∀ i j, 0 < i → i < j → j < Generated.countryCount →
    ∀ s, Generated.countryIso.getD i none = some s → Generated.countryIso.getD j none = some s →
      s ≠ "--" → Reference.sameCountry i j = true := by
  intro i j h0 hij hj s hi hjs hne
  exact tbl_iso_distinct_of_clashes tbl_iso_no_clashes i j h0 hij hj s hi hjs hne (by simp)



#print axioms C18_pty
#print axioms C18_pty_width
#print axioms C18_country_name
#print axioms C18_country_iso
#print axioms C18_iso_two_letters
#print axioms C18_iso_distinct
#print axioms tbl_reference_iso_distinct

end RDS
