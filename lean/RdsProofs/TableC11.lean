import RdsProofs.TableBase
/-!
# RdsProofs.TableC11 — kernel-checked theorems about the extracted ECC/country table (C11)

Whole-table facts evaluated by the kernel, lifted to `∀` by the `tbl_…` lemmas of `RdsProofs.TableBase` (see there).
-/

namespace RDS
open RDS.TableCheck

/-- all 17 × 256 cells: the library's lookup is the IEC 62106-4 table -/
theorem C11_table : Generated.eccCountry = Reference.iecTable := eq_of_beq (by decide +kernel)

theorem C11_cells : ∀ nib e,
    (Generated.eccCountry.getD (nib + 1) []).getD e 0 = Reference.iec nib e := by
  intro nib e; rw [C11_table]; rfl

/-- every cell is a valid enumerator (also for out-of-range row/column arguments, where `getD`
yields 0) -/
theorem C11_range : ∀ row e,
    (Generated.eccCountry.getD row []).getD e 0 < Generated.countryCount := by
  intro row e
  have hpos : 0 < Generated.countryCount := by decide +kernel
  have hok : eccRangeOk Generated.eccCountry = true := by decide +kernel
  refine tbl_getD_all (p := fun r => r.getD e 0 < Generated.countryCount) (fun r hr => ?_) row [] hpos
  exact tbl_getD_all (fun x hx => by simpa using List.all_eq_true.mp (List.all_eq_true.mp hok r hr) x hx)
    e 0 hpos

/-- PI unknown (row 0), nibble 0 (row 1) and every ECC byte other than the 23 allocated ones
(A0–A6, D0–D4, E0–E5, F0–F4) give "unknown" -/
theorem C11_unknown : ∀ row e, (row ≤ 1 ∨ e ∉ Reference.eccCodes) →
    (Generated.eccCountry.getD row []).getD e 0 = 0 := by
  intro row e hc
  obtain ⟨h01, hall⟩ := Bool.and_eq_true_iff.1 (show eccUnknownOk Generated.eccCountry = true by decide +kernel)
  rcases hc with hc | hc
  · -- rows 0 and 1 are zero
    rw [show Generated.eccCountry.getD row [] = (Generated.eccCountry.take 2).getD row [] by
      simp [List.getD_eq_getElem?_getD, show row < 2 by omega]]
    refine tbl_getD_all (p := fun r => r.getD e 0 = 0) (fun r hr => ?_) row [] rfl
    exact tbl_getD_all (p := (· = 0))
      (fun x hx => by simpa using List.all_eq_true.mp (List.all_eq_true.mp h01 r hr) x hx) e 0 rfl
  · -- a non-zero cell sits in an allocated ECC column
    refine tbl_getD_all (p := fun r => r.getD e 0 = 0) (fun r hr => ?_) row [] rfl
    rcases Nat.lt_or_ge e r.length with hlen | hlen
    · have hz := tbl_zipIdx_all (p := fun i x => x == 0 || Reference.eccCodes.contains i)
        (List.all_eq_true.mp hall r hr) e 0 hlen
      simpa [hc] using hz
    · simp [List.getD_eq_getElem?_getD, List.getElem?_eq_none hlen]

/-- the range contract assumed by the logic proofs, for both builds -/
theorem eccOk (u : Bool) : RDS.EccOk ⟨Generated.cfg u, Generated.countryCount⟩ := by
  refine ⟨?_, ?_⟩
  · show 0 < Generated.countryCount
    decide +kernel
  · intro n e
    exact C11_range (n + 1) e

/-- Cells in which the older editions (EN 50067:1998, IEC 62106:2009/2015 Annex D) differ from the
IEC 62106-4:2018 layout of `Reference.iecColumns`, with the library's value: the library follows
the 2018 layout — E3/4 unallocated (older: Macedonia), E4/3 Macedonia (older: Kyrgyzstan),
E5/3 Kyrgyzstan (older: E5 not in use). -/
theorem C11_legacy_cells :
    Reference.legacyCells.map (fun c => (c.1, c.2.1, c.2.2.enumerator, eccCell (c.1 + 1) c.2.1)) =
      [(4, 0xE3, Reference.Country.macedonia.enumerator, 0),
       (3, 0xE4, Reference.Country.kyrgyzstan.enumerator, Reference.Country.macedonia.enumerator),
       (3, 0xE5, 0, Reference.Country.kyrgyzstan.enumerator)] := by
  decide +kernel

#print axioms C11_table
#print axioms C11_cells
#print axioms C11_range
#print axioms C11_unknown
#print axioms eccOk
#print axioms C11_legacy_cells

end RDS
