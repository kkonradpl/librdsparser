import RdsProofs.TransGroupsText
import RdsProofs.Handlers
/-!
# RdsProofs.TransGroupsRt — `rdsparser_group2_parse`

The translated function is cut where `group2_eq` (`Handlers.lean`) cuts the model's `group2`: the A/B toggle
(`tg_c2toggle` against `g2s2`, `g2clr`), the bit-flip guard, the text update (`tg_c2upd` against `g2tail`, a `tg_TR` chain
on the slot `.rt f`, `TransString.lean`). The two parts are hand copies of the translated text, tied by `tg_group2_shape`.
-/

namespace RDS.C
open RDS
open RDS.C.TransBits

/-- the A/B toggle, the first `if` of `rdsparser_group2_parse`, as translated (`cSetRt` for the write to `rds->rt[f]`): new
state and the `changed` flag; a copy, tied by `tg_group2_shape` -/
def tg_c2toggle (rds : C_librdsparser) (eb : Int) (rt_flag : Int) : C_librdsparser × Int :=
  let changed : Int := 0
  if eb == 0 && rt_flag != rds.last_rt_flag then
    let t2 :=
      if rds.last_rt_flag != -1 && c_rdsparser_string_get_available (getS rds.rt rt_flag) != 0 then
        let t1 := c_rdsparser_string_clear (getS rds.rt rt_flag)
        let rds : C_librdsparser := cSetRt rds rt_flag t1
        let changed : Int := 1
        (rds, changed)
      else
        (rds, changed)
    let rds : C_librdsparser := t2.1
    let changed : Int := t2.2
    let rds : C_librdsparser := { rds with last_rt_flag := i8 rt_flag }
    (rds, changed)
  else
    (rds, changed)

/-- the part of `rdsparser_group2_parse` after the toggle and the bit-flip guard; a copy, tied by `tg_group2_shape` -/
def tg_c2upd (unicode : Bool) (rds : C_librdsparser) (changed : Int) (data errors : List Int) (flag rt_flag : Int)
    (log : CLog) : C_librdsparser × CLog :=
    let t5 :=
      if flag == 0 then
        let position : Int := u8 (4 * c_rdsparser_group2_get_rt_pos data)
        let t4 := c_rdsparser_parser_update_string unicode rds (getS rds.rt rt_flag) 1 2 data errors position
        let rds : C_librdsparser := cSetRt rds rt_flag t4.2
        let changed : Int := b2i (bor changed t4.1 != 0)
        let position : Int := u8 (position + 2)
        (rds, changed, position)
      else
        let position : Int := u8 (2 * c_rdsparser_group2_get_rt_pos data)
        (rds, changed, position)
    let rds : C_librdsparser := t5.1
    let changed : Int := t5.2.1
    let position : Int := t5.2.2
    let t6 := c_rdsparser_parser_update_string unicode rds (getS rds.rt rt_flag) 1 3 data errors position
    let rds : C_librdsparser := cSetRt rds rt_flag t6.2
    let changed : Int := b2i (bor changed t6.1 != 0)
    let log : CLog :=
      if changed != 0 && rds.callback_rt != 0 then
        log ++ [⟨"rt", [rt_flag, rds.user_data], rds⟩]
      else
        log
    (rds, log)

theorem tg_group2_shape (u : Bool) (r : C_librdsparser) (data errors : List Int) (flag : Int) (log : CLog) :
    c_rdsparser_group2_parse u r data errors flag log =
      let rt_flag := c_rdsparser_group2_get_rt_flag data
      let t3 := tg_c2toggle r (errors.getD 1 0) rt_flag
      if errors.getD 1 0 != 0 && rt_flag != t3.1.last_rt_flag && t3.1.last_rt_flag != -1 then (t3.1, log)
      else tg_c2upd u t3.1 t3.2 data errors flag rt_flag log :=
  rfl

theorem tg_toggle (r : C_librdsparser) (hI : CInv r) (g : Group) :
    let t := tg_c2toggle r (g.eb : Int) ((g.b / 16 % 2 : Nat) : Int)
    abs t.1 = g2s2 (abs r) g ∧ t.2 = b2i (g2clr (abs r) g) ∧ CInv t.1 := by
  have hf : (Slot.rt (g.b / 16 % 2)).Ok := Nat.mod_lt _ (by decide)
  unfold tg_c2toggle g2s2 g2step g2clr
  generalize g.b / 16 % 2 = f at hf
  have hok : StrOk (getS r.rt (f : Int)) 64 := Slot.strOk hI (.rt f) hf
  have hget : absText (getS r.rt (f : Int)) = (abs r).rt f := Slot.abs_get r (.rt f) hf
  have hav := string_get_available_refines _ 64 hok
  obtain ⟨hclr, hok'⟩ := string_clear_refines _ 64 hok
  rw [hget] at hav hclr
  have hv : (f : Int) = -1 ∨ (f : Int) = 0 ∨ (f : Int) = 1 := by have : f < 2 := hf; omega
  simp only [natCast_beq_lit, i8_natCast_of_lt (Nat.lt_trans hf (by decide)), hav, b2i_ne_zero,
    show (abs r).lastRt = r.last_rt_flag from rfl]
  -- the C tests "flag switched" and inside it "a text to discard"; the model passes the first and their conjunction
  generalize (decide (g.eb = 0) && ((f : Int) != r.last_rt_flag)) = sw
  rw [Bool.and_assoc]
  generalize (r.last_rt_flag != -1 && getAvailable ((abs r).rt f)) = av
  cases sw
  · exact ⟨rfl, rfl, hI⟩
  · cases av
    · exact ⟨rfl, rfl, hI.of_lastRt _ hv⟩
    · exact ⟨congrArg (fun s : State => { s with lastRt := (f : Int) })
          ((Slot.abs_put hI _ (.rt f) hf hok').trans (congrArg ((abs r).setRt f) hclr)),
        rfl, (Slot.inv_put hI _ (.rt f) hf hok').of_lastRt _ hv⟩

theorem tg_upd (u : Bool) (r : C_librdsparser) (hI : CInv r) (g : Group) (clr : Bool) (log : CLog) :
    tg_Ref log (tg_c2upd u r (b2i clr) (dataOf g) (errorsOf g) (tg_flag g) ((g.b / 16 % 2 : Nat) : Int) log)
      (g2tail (cfgC u) (abs r) g clr) := by
  have hf : (Slot.rt (g.b / 16 % 2)).Ok := Nat.mod_lt _ (by decide)
  unfold tg_c2upd g2tail g2u
  rw [tg_flag_beq, group2_get_rt_pos]
  generalize g.b / 16 % 2 = f at hf ⊢
  cases g.versionB
  · -- version A: blocks C and D, positions 4*pos and 4*pos+2
    have hp1 : u8 (4 * ((g.b % 16 : Nat) : Int)) = ((4 * (g.b % 16) : Nat) : Int) :=
      u8_mul_natCast 4 _ (by omega)
    have hp2 : u8 (u8 (4 * ((g.b % 16 : Nat) : Int)) + 2) = ((4 * (g.b % 16) + 2 : Nat) : Int) := by
      rw [hp1]; exact u8_add_natCast _ 2 (by omega)
    have h1 := ((tg_TR.init (.rt f) r hI (b := clr) rfl).step u hf g 2 g.c g.ec _ _ rfl rfl hp1
      (by show _ < 64; omega)).or (b := clr) rfl
    exact ((h1.step u hf g 3 g.d g.ed _ _ rfl rfl hp2 (by show _ < 64; omega)).or h1.2.2).emit log _ _ .rt
      (.rt f) rfl rfl
  · -- version B: block D only, position 2*pos; the model ORs in a `false` for the block it skips
    have hp : u8 (2 * ((g.b % 16 : Nat) : Int)) = ((2 * (g.b % 16) : Nat) : Int) :=
      u8_mul_natCast 2 _ (by omega)
    exact (((tg_TR.init (.rt f) r hI (b := clr || false) (by rw [Bool.or_false])).step u hf g 3 g.d g.ed
      _ _ rfl rfl hp (by show _ < 64; omega)).or (ch := b2i clr) (b := clr || false) (by rw [Bool.or_false])).emit log _ _ .rt
      (.rt f) rfl rfl

theorem tg_group2 (u : Bool) (r : C_librdsparser) (hI : CInv r) (g : Group) (log : CLog) :
    tg_Ref log (c_rdsparser_group2_parse u r (dataOf g) (errorsOf g) (tg_flag g) log) (group2 (cfgC u) (abs r) g) := by
  obtain ⟨t1, t2, t3⟩ := tg_toggle r hI g
  rw [tg_group2_shape, group2_eq]
  simp only [group2_get_rt_flag, tg_err1]
  generalize tg_c2toggle r (g.eb : Int) ((g.b / 16 % 2 : Nat) : Int) = t at t1 t2 t3
  rw [t2, ← t1]
  -- the bit-flip guard, then the text update
  exact tg_Ref_ite (by rw [natCast_bne_zero, Bool.decide_eq_true]; rfl) (fun _ => tg_Ref_refl t.1 log t3)
    (fun _ => tg_upd u t.1 t3 g _ log)

end RDS.C

#print axioms RDS.C.tg_group2
