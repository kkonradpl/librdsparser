import RdsProofs.TransAbs
import RdsProofs.TransString
/-!
# RdsProofs.TransBuffer — refinement of the buffer / settings API of the translated C code

`rdsparser_set_<field>`, `rdsparser_add_af`, `rdsparser_init`, `rdsparser_clear`, the settings setters and the
callback registration functions of `RdsC/Translated.lean`, seen through `abs` (`TransAbs.lean`), are the
corresponding functions of the hand-written model, and preserve the invariant `CInv`.

`cSetField f` / `cRegister c`: the seven translated setters / twelve registration functions as one function of the model's
`Fld` / `Cb`. `FldRange f v`, `fldCard f`: the values the callers pass for `f`. `cGet cPut cSlot cName`: the member of
`rdsparser_buffer_data_t`, the callback slot and the callback's name behind a field. With them `cBufUpdate f` and
`cSetVia f` are the one text of which the seven `rdsparser_buffer_update_<f>` and `rdsparser_set_<f>` are the instances:
`cSetField_eq`, by unfolding per field, is the only place where the generated setters enter, and `cSetVia_refines` is their
refinement, proved once. `tg_Step.setField`, `tg_Step.addAf` restate the results as steps of a handler (`TransAbs.lean`).
-/

namespace RDS.C
open RDS
open RDS.C.TransBits (bitsOf af_get_eq af_set_eq)

/-- dispatch to the seven translated `rdsparser_set_<field>` -/
def cSetField : Fld → C_librdsparser → Int → CLog → C_librdsparser × CLog
  | .pi => c_rdsparser_set_pi | .pty => c_rdsparser_set_pty | .tp => c_rdsparser_set_tp
  | .ta => c_rdsparser_set_ta | .ms => c_rdsparser_set_ms | .ecc => c_rdsparser_set_ecc
  | .country => c_rdsparser_set_country

/-- the value range of the field's C type that the callers guarantee -/
def FldRange : Fld → Int → Prop
  | .pi, v => 0 ≤ v ∧ v < 65536
  | .pty, v => 0 ≤ v ∧ v < 32
  | .tp, v => v = 0 ∨ v = 1
  | .ta, v => v = 0 ∨ v = 1
  | .ms, v => v = 0 ∨ v = 1
  | .ecc, v => 0 ≤ v ∧ v < 256
  | .country, v => 0 ≤ v ∧ v < 256

/-- dispatch to the twelve translated `rdsparser_register_<cb>` -/
def cRegister : Cb → C_librdsparser → Int → C_librdsparser
  | .pi => c_rdsparser_register_pi | .pty => c_rdsparser_register_pty | .tp => c_rdsparser_register_tp
  | .ta => c_rdsparser_register_ta | .ms => c_rdsparser_register_ms | .ecc => c_rdsparser_register_ecc
  | .country => c_rdsparser_register_country | .af => c_rdsparser_register_af
  | .ps => c_rdsparser_register_ps | .rt => c_rdsparser_register_rt | .ptyn => c_rdsparser_register_ptyn
  | .ct => c_rdsparser_register_ct

theorem register_refines (r : C_librdsparser) (hI : CInv r) (c : Cb) (on : Bool) :
    abs (cRegister c r (b2i on)) = { abs r with cbs := (abs r).cbs.set c.idx on } ∧
    CInv (cRegister c r (b2i on)) := by
  -- the slot written holds `b2i on`, which the abstraction reads as `on`
  have hcb : absCbs (cRegister c r (b2i on)) = (abs r).cbs.set c.idx (b2i on != 0) := by cases c <;> rfl
  rw [b2i_ne_zero] at hcb
  rw [← hcb]
  cases c <;> exact hI.callbacks rfl rfl rfl rfl rfl rfl rfl rfl

theorem set_user_data_refines (r : C_librdsparser) (hI : CInv r) (n : Nat) :
    abs (c_rdsparser_set_user_data r (n : Int)) = { abs r with ud := n } ∧
    CInv (c_rdsparser_set_user_data r (n : Int)) := by
  constructor
  · simp [c_rdsparser_set_user_data, abs, absCbs, absSet]
  · exact { hI with ud := Int.natCast_nonneg n }

theorem set_extended_check_refines (r : C_librdsparser) (hI : CInv r) (v : Bool) :
    abs (c_rdsparser_set_extended_check r (b2i v)) = { abs r with set := { (abs r).set with ext := v } } ∧
    CInv (c_rdsparser_set_extended_check r (b2i v)) := by
  constructor
  · simp [c_rdsparser_set_extended_check, c_rdsparser_buffer_set_extended_check, abs, absCbs, absSet,
      b2i_ne_zero]
  · refine { hI with ext := ?_ }
    cases v <;> simp [c_rdsparser_set_extended_check, c_rdsparser_buffer_set_extended_check]

theorem set_text_progressive_refines (r : C_librdsparser) (hI : CInv r) (t : TextId) (v : Bool) :
    abs (c_rdsparser_set_text_progressive r (textIdx t) (b2i v)) = { abs r with set := (abs r).set.setProg t v } ∧
    CInv (c_rdsparser_set_text_progressive r (textIdx t) (b2i v)) := by
  obtain ⟨a, b, c, hp⟩ := len3 r.progressive hI.progLen
  constructor
  · -- only `progressive` changes, and `abs` reads it through `absSet` alone
    have e : absSet (c_rdsparser_set_text_progressive r (textIdx t) (b2i v)) = (absSet r).setProg t (b2i v != 0) := by
      simp only [absSet, c_rdsparser_set_text_progressive, hp]
      cases t <;> rfl
    rw [b2i_ne_zero] at e
    exact congrArg (fun s => { abs r with set := s }) e
  · exact hI.of_settings _ _ ((length_listSet ..).trans hI.progLen) (forall_mem_set hI.prog _ (by cases v <;> simp))
      hI.corrLen hI.corr

/-- the clamp of `rdsparser_set_text_correction` is `min`, which fits the `uint8_t` it is stored in; the left side is pasted
from the translated function, `set_text_correction_refines` rewrites with it -/
theorem tb_clamp (v : Nat) : u8 (if (v : Int) < 2 then (v : Int) else 2) = ((min v 2 : Nat) : Int) := by
  rw [show (if (v : Int) < 2 then (v : Int) else 2) = ((min v 2 : Nat) : Int) by omega]
  exact u8_natCast_of_lt (by omega)

theorem set_text_correction_refines (r : C_librdsparser) (hI : CInv r) (t : TextId) (k : BlockType) (v : Nat) :
    abs (c_rdsparser_set_text_correction r (textIdx t) (typeIdx k) (v : Int)) =
      { abs r with set := (abs r).set.setCorr t k v } ∧
    CInv (c_rdsparser_set_text_correction r (textIdx t) (typeIdx k) (v : Int)) := by
  have e : c_rdsparser_set_text_correction r (textIdx t) (typeIdx k) (v : Int) =
      { r with correction := (listSet r.correction (textIdx t)
          (listSet (getL r.correction (textIdx t)) (typeIdx k) ((min v 2 : Nat) : Int))) } := by
    simp only [c_rdsparser_set_text_correction, decide_eq_true_eq, tb_clamp v]
  obtain ⟨r0, r1, r2, hc⟩ := len3 r.correction hI.corrLen
  have hrow := hI.corrRow t
  rw [e]
  constructor
  · -- only `correction` changes, and `abs` reads it through `absSet` alone; with the rows written out both sides compute
    refine congrArg (fun s => { abs r with set := s }) (?_ : absSet _ = (absSet r).setCorr t k v)
    have h0 := hI.corr r0 (by simp [hc])
    have h1 := hI.corr r1 (by simp [hc])
    have h2 := hI.corr r2 (by simp [hc])
    obtain ⟨a0, b0, rfl⟩ := len2 r0 h0.1
    obtain ⟨a1, b1, rfl⟩ := len2 r1 h1.1
    obtain ⟨a2, b2, rfl⟩ := len2 r2 h2.1
    simp only [absSet, hc]
    cases t <;> cases k <;> rfl
  · exact hI.of_settings _ _ hI.progLen hI.prog ((length_listSet ..).trans hI.corrLen)
      (forall_mem_set hI.corr _ ⟨(length_listSet ..).trans hrow.1, forall_mem_set hrow.2 _ (by omega)⟩)

theorem tb_setField_reject (s : State) (f : Fld) (v : Int)
    (h : (decide (s.used.get f = v) || (s.set.ext && s.temp.get f != v)) = true) :
    setField s f v = ({ s with temp := s.temp.put f v }, []) := by
  have hb : bufUpdate s.set.ext (s.used.get f) (s.temp.get f) v = (s.used.get f, v, false) := by
    unfold bufUpdate; rw [if_pos h]
  unfold setField
  simp only [hb]
  cases f <;> rfl

theorem tb_setField_accept (s : State) (f : Fld) (v : Int)
    (h : ¬ (decide (s.used.get f = v) || (s.set.ext && s.temp.get f != v)) = true) :
    setField s f v =
      ({ s with used := s.used.put f v }, emit { s with used := s.used.put f v } f.cb f.ev) := by
  have hb : bufUpdate s.set.ext (s.used.get f) (s.temp.get f) v = (v, s.temp.get f, true) := by
    unfold bufUpdate; rw [if_neg h]
  unfold setField
  simp only [hb]
  cases f <;> rfl

/-- the member of `rdsparser_buffer_data_t` behind a model field -/
def cGet (d : C_rdsparser_buffer_data) : Fld → Int
  | .pi => d.pi | .pty => d.pty | .tp => d.tp | .ta => d.ta | .ms => d.ms | .ecc => d.ecc | .country => d.country

def cPut (d : C_rdsparser_buffer_data) (f : Fld) (v : Int) : C_rdsparser_buffer_data :=
  match f with
  | .pi => { d with pi := v } | .pty => { d with pty := v } | .tp => { d with tp := v }
  | .ta => { d with ta := v } | .ms => { d with ms := v } | .ecc => { d with ecc := v }
  | .country => { d with country := v }

/-- the callback slot and the callback's name in the log -/
def cSlot (r : C_librdsparser) : Fld → Int
  | .pi => r.callback_pi | .pty => r.callback_pty | .tp => r.callback_tp | .ta => r.callback_ta
  | .ms => r.callback_ms | .ecc => r.callback_ecc | .country => r.callback_country

def cName : Fld → String
  | .pi => "pi" | .pty => "pty" | .tp => "tp" | .ta => "ta" | .ms => "ms" | .ecc => "ecc" | .country => "country"

theorem absData_cGet (d : C_rdsparser_buffer_data) (f : Fld) : (absData d).get f = cGet d f := by cases f <;> rfl

theorem absData_cPut (d : C_rdsparser_buffer_data) (f : Fld) (v : Int) :
    absData (cPut d f v) = (absData d).put f v := by cases f <;> rfl

theorem cSlot_registered (r : C_librdsparser) (f : Fld) : (cSlot r f != 0) = (abs r).registered f.cb := by
  cases f <;> rfl

theorem absEvent_cName (f : Fld) (ud : Int) (snap : C_librdsparser) :
    absEvent ⟨cName f, [ud], snap⟩ = some ⟨f.ev, ud.toNat, abs snap⟩ := by cases f <;> rfl

/-- the number of values of the field's C type that the callers pass -/
def fldCard : Fld → Nat
  | .pi => 65536 | .pty => 32 | .tp => 2 | .ta => 2 | .ms => 2 | .ecc => 256 | .country => 256

theorem fldRange_natCast (f : Fld) (n : Nat) (h : n < fldCard f) : FldRange f (n : Int) := by
  cases f <;> simp only [FldRange, fldCard] at h ⊢ <;> omega

theorem fldRange_bounds {f : Fld} {v : Int} (hv : FldRange f v) : f.unknown ≤ v ∧ v < fldCard f := by
  cases f <;> simp only [FldRange, Fld.unknown, fldCard] at hv ⊢ <;> omega

theorem dataOk_cPut {d : C_rdsparser_buffer_data} (hd : DataOk d) {f : Fld} {v : Int} (hv : FldRange f v) :
    DataOk (cPut d f v) := by
  refine (tb_dataOk_iff _).2 ⟨?_, by cases f <;> exact hd.af⟩
  have hs := hd.scal
  unfold tb_ScalOk at hs ⊢
  -- every conjunct but the two bounds of the field written is one of `hs`
  cases f <;> simp only [cPut, hs, true_and, and_true] <;> exact fldRange_bounds hv

/-- the macro `RDSPARSER_BUFFER_UPDATE` of `buffer.c`, of which the seven `rdsparser_buffer_update_<field>` are the
instances -/
def cBufUpdate (f : Fld) (buffer : C_rdsparser_buffer) (value : Int) : Int × C_rdsparser_buffer :=
  if cGet buffer.data_used f == value || buffer.extended_check != 0 && cGet buffer.data_temp f != value then
    ((0 : Int), { buffer with data_temp := cPut buffer.data_temp f value })
  else
    ((1 : Int), { buffer with data_used := cPut buffer.data_used f value })

/-- the body the seven `rdsparser_set_<field>` of `rdsparser.c` share, copied from the translation of one of them with the
lens in the field's place; `cSetField_eq` ties it (if that fails for one field only, that setter has left the common
shape: see `tb_field_tac`) -/
def cSetVia (f : Fld) (rds : C_librdsparser) (v : Int) (log : CLog) : C_librdsparser × CLog :=
  let t1 := cBufUpdate f rds.buffer v
  let rds : C_librdsparser := { rds with buffer := t1.2 }
  (rds, if t1.1 != 0 then if cSlot rds f != 0 then log ++ [⟨cName f, [rds.user_data], rds⟩] else log else log)

theorem cSetField_eq (f : Fld) : cSetField f = cSetVia f := by cases f <;> rfl

theorem cSetVia_refines (f : Fld) (r : C_librdsparser) (hI : CInv r) (v : Int) (hv : FldRange f v) (log : CLog) :
    tg_Ref log (cSetVia f r v log) (setField (abs r) f v) := by
  unfold cSetVia cBufUpdate
  by_cases h : (cGet r.buffer.data_used f == v || r.buffer.extended_check != 0 && cGet r.buffer.data_temp f != v) = true
  · have hm : (decide ((abs r).used.get f = v) || ((abs r).set.ext && (abs r).temp.get f != v)) = true := by
      rw [← absData_cGet, ← absData_cGet] at h; exact h
    rw [if_pos h, tb_setField_reject _ _ _ hm]
    exact ⟨congrArg (fun t => { abs r with temp := t }) (absData_cPut _ f v), (List.append_nil _).symm,
      tb_inv_of_buffer r _ hI hI.used (dataOk_cPut hI.temp hv) rfl⟩
  · have hm : ¬ (decide ((abs r).used.get f = v) || ((abs r).set.ext && (abs r).temp.get f != v)) = true := by
      rw [← absData_cGet, ← absData_cGet] at h; exact h
    rw [if_neg h, tb_setField_accept _ _ _ hm]
    have ha : abs { r with buffer := { r.buffer with data_used := cPut r.buffer.data_used f v } } =
        { abs r with used := (abs r).used.put f v } :=
      congrArg (fun t => { abs r with used := t }) (absData_cPut _ f v)
    refine ⟨ha, ?_, tb_inv_of_buffer r _ hI (dataOk_cPut hI.used hv) hI.temp rfl⟩
    rw [← ha]
    exact absLog_emit log _ _ _ f.cb f.ev (cSlot_registered r f) (absEvent_cName f _ _)

theorem set_field_refines (f : Fld) (r : C_librdsparser) (hI : CInv r) (v : Int) (hv : FldRange f v) (log : CLog) :
    tg_Ref log (cSetField f r v log) (setField (abs r) f v) :=
  cSetField_eq f ▸ cSetVia_refines f r hI v hv log

-- No proof calls `tb_field_tac`: `set_field_refines` is `cSetVia_refines` for all seven fields at once. The macro proves one
-- field on the translated setter itself, without the lens `cSetVia`: the proof to fall back on for a setter that leaves the
-- shape the seven share (then `cSetField_eq` fails in that case). The goal must name the setter,
-- `tg_Ref log (c_rdsparser_set_<f> r v log) (setField (abs r) F v)`, which is a `show` away from the
-- `cSetField .<f> r v log` that `cases f` leaves, with `hv : FldRange F v`. `tb_emit` has no other user.
set_option hygiene false in
/-- The proof of one case of `set_field_refines`: `SET`/`UPD` are the translated setter and buffer-update
function, `F` the model field, `fld`/`cb`/`nm` the C field, callback slot and callback name. Expects
`r hI v hv log` in the context. -/
macro "tb_field_tac" SET:ident UPD:ident F:term:max fld:ident cb:ident nm:str : tactic => `(tactic| (
  have hused := hI.used
  have htemp := hI.temp
  simp only [FldRange] at hv
  by_cases h : (decide ((abs r).used.get $F = v) || ((abs r).set.ext && (abs r).temp.get $F != v)) = true
  · have hc : (r.buffer.data_used.$fld:ident == v ||
        r.buffer.extended_check != 0 && r.buffer.data_temp.$fld:ident != v) = true := h
    have e : $SET r v log =
        ({ r with buffer := { r.buffer with data_temp := { r.buffer.data_temp with $fld:ident := v } } }, log) := by
      simp only [$SET:ident, $UPD:ident, hc, if_true]
      simp
    rw [tb_setField_reject _ _ _ h, e]
    refine ⟨rfl, by simp, tb_inv_of_buffer r _ hI hused ?_ rfl⟩
    rw [tb_dataOk_iff] at htemp ⊢
    refine ⟨?_, htemp.2⟩
    have := htemp.1
    unfold tb_ScalOk at this ⊢
    simp only; omega
  · have hc : ¬ (r.buffer.data_used.$fld:ident == v ||
        r.buffer.extended_check != 0 && r.buffer.data_temp.$fld:ident != v) = true := h
    have e : $SET r v log =
        ({ r with buffer := { r.buffer with data_used := { r.buffer.data_used with $fld:ident := v } } },
         if r.$cb:ident != 0 then log ++ [⟨$nm, [r.user_data],
           { r with buffer := { r.buffer with data_used := { r.buffer.data_used with $fld:ident := v } } }⟩]
         else log) := by
      simp only [$SET:ident, $UPD:ident, hc, if_false]
      simp
    rw [tb_setField_accept _ _ _ h, e]
    refine ⟨rfl, ?_, tb_inv_of_buffer r _ hI ?_ htemp rfl⟩
    · show absLog (if r.$cb:ident != 0 then _ else log) = _
      rw [tb_emit]
      show _ = absLog log ++ (if (r.$cb:ident != 0) = true then _ else [])
      cases hcb : (r.$cb:ident != 0)
      · simp
      · simp only [if_true, tb_absLog_snoc]
        rfl
    · rw [tb_dataOk_iff] at hused ⊢
      refine ⟨?_, hused.2⟩
      have := hused.1
      unfold tb_ScalOk at this ⊢
      simp only; omega))

theorem tb_af_set_ok (af : C_rdsparser_af) (v : Int) (h : tb_AfOk af) : tb_AfOk (c_rdsparser_af_set af v).2 := by
  unfold c_rdsparser_af_set
  split
  · exact ⟨(length_listSet ..).trans h.1, forall_mem_set h.2 _ (u8_range _)⟩
  · exact h

theorem tb_buffer_add_af (b : C_rdsparser_buffer) (v : Nat) :
    c_rdsparser_buffer_add_af b (v : Int) =
      if afGet (bitsOf b.data_used.af.buffer) v = true then ((0 : Int), b)
      else if (b.extended_check != 0 && !afGet (bitsOf b.data_temp.af.buffer) v) = true then
        ((0 : Int), { b with data_temp := { b.data_temp with af := (c_rdsparser_af_set b.data_temp.af v).2 } })
      else
        ((c_rdsparser_af_set b.data_used.af v).1,
          { b with data_used := { b.data_used with af := (c_rdsparser_af_set b.data_used.af v).2 } }) := by
  unfold c_rdsparser_buffer_add_af
  rw [af_get_eq, af_get_eq]
  simp only [b2i_ne_zero]
  -- whichever way the C writes the first test (`if (!get) {…} return false` or `if (get) return false; …`)
  all_goals (cases afGet (bitsOf b.data_used.af.buffer) v <;> rfl)

theorem add_af_refines (r : C_librdsparser) (hI : CInv r) (v : Nat) (hv : v < 256) (log : CLog) :
    tg_Ref log (c_rdsparser_add_af r (v : Int) log) (addAf (abs r) v) := by
  have hfreq : (u32 (87500 + u32 ((v : Int) * 100))).toNat = 87500 + v * 100 := by
    rw [u32_of_range (x := (v : Int) * 100) (by omega) (by omega), u32_of_range (by omega) (by omega)]; omega
  obtain ⟨su1, su2, -⟩ := af_set_eq r.buffer.data_used.af v hI.used.af.1
  obtain ⟨-, st2, -⟩ := af_set_eq r.buffer.data_temp.af v hI.temp.af.1
  unfold c_rdsparser_add_af addAf
  rw [tb_buffer_add_af]
  by_cases hA : afGet (bitsOf r.buffer.data_used.af.buffer) v = true
  · -- already present
    rw [if_pos hA, if_pos (show afGet (abs r).used.af v = true from hA)]
    exact tg_Ref_refl r log hI
  · rw [if_neg hA, if_neg (show ¬ afGet (abs r).used.af v = true from hA)]
    by_cases hB : (r.buffer.extended_check != 0 && !afGet (bitsOf r.buffer.data_temp.af.buffer) v) = true
    · -- parked in temp
      rw [if_pos hB, if_pos (show ((abs r).set.ext && !afGet (abs r).temp.af v) = true from hB)]
      exact ⟨congrArg (fun a => { abs r with temp := { (abs r).temp with af := a } }) st2, (List.append_nil _).symm,
        tb_inv_of_buffer r _ hI hI.used ((tb_dataOk_iff _).2 ⟨hI.temp.scal, tb_af_set_ok _ _ hI.temp.af⟩) rfl⟩
    · -- stored in used; the callback only for a representable code (1..204)
      rw [if_neg hB, if_neg (show ¬ ((abs r).set.ext && !afGet (abs r).temp.af v) = true from hB)]
      have ha : abs { r with buffer := { r.buffer with data_used :=
            { r.buffer.data_used with af := (c_rdsparser_af_set r.buffer.data_used.af v).2 } } } =
          { abs r with used := { (abs r).used with af := (afSet (abs r).used.af v).1 } } :=
        congrArg (fun a => { abs r with used := { (abs r).used with af := a } }) su2
      refine ⟨ha, ?_, tb_inv_of_buffer r _ hI ((tb_dataOk_iff _).2 ⟨hI.used.scal, tb_af_set_ok _ _ hI.used.af⟩) hI.temp rfl⟩
      show absLog (if ((c_rdsparser_af_set r.buffer.data_used.af v).1 != 0) = true then _ else log) =
        absLog log ++ if (afSet (bitsOf r.buffer.data_used.af.buffer) v).2 = true then _ else []
      rw [su1, b2i_ne_zero, ← ha]
      cases (afSet (bitsOf r.buffer.data_used.af.buffer) v).2
      · rw [if_neg Bool.false_ne_true, if_neg Bool.false_ne_true, List.append_nil]
      · rw [if_pos rfl, if_pos rfl]
        exact absLog_emit log _ _ _ .af _ rfl (by rw [← hfreq]; rfl)

theorem tg_Step.setField (f : Fld) (n : Nat) (h : n < fldCard f) :
    tg_Step (fun r log => cSetField f r n log) (fun s => setField s f n) :=
  fun r log hI => set_field_refines f r hI n (fldRange_natCast f n h) log

theorem tg_Step.addAf (v : Nat) (h : v < 256) :
    tg_Step (fun r log => c_rdsparser_add_af r (v : Int) log) (fun s => addAf s v) :=
  fun r log hI => add_af_refines r hI v h log

/-- the loop of `rdsparser_af_clear` acts on the buffer alone; the loop body is pasted from the translated function, and
`tb_af_clear` fails at its `rw` when it changes -/
theorem tb_af_clear_fold (af : C_rdsparser_af) (k : Nat) :
    (List.range k).foldl (fun (af : C_rdsparser_af) (i : Nat) => { af with buffer := listSet af.buffer (i : Int) 0 }) af =
      { buffer := (List.range k).foldl (fun (l : List Int) (i : Nat) => l.set i 0) af.buffer } := by
  induction k with
  | zero => rfl
  | succ k ih =>
    rw [List.range_succ, List.foldl_append, List.foldl_append, ih]
    simp [listSet]

theorem tb_af_clear (af : C_rdsparser_af) (h : af.buffer.length = 26) :
    c_rdsparser_af_clear af = { buffer := List.replicate 26 0 } := by
  unfold c_rdsparser_af_clear
  rw [forRange_lit, tb_af_clear_fold, foldl_range_set_all 0 _ 26 h]

def tb_dataCleared : C_rdsparser_buffer_data := ⟨-1, -1, -1, -1, -1, -1, 0, ⟨List.replicate 26 0⟩⟩

theorem tb_data_clear (d : C_rdsparser_buffer_data) (h : d.af.buffer.length = 26) :
    c_rdsparser_buffer_data_clear d = tb_dataCleared := by
  unfold c_rdsparser_buffer_data_clear
  simp only [tb_af_clear d.af h]
  rfl

theorem tb_bits_zero : bitsOf (List.replicate 26 0) = List.replicate afBits false := by decide +kernel

theorem tb_absData_cleared : absData tb_dataCleared = Scalars.cleared := by
  unfold absData tb_dataCleared Scalars.cleared
  simp only [tb_bits_zero]

theorem tb_dataOk_cleared : DataOk tb_dataCleared := by
  unfold DataOk; decide

theorem tb_buffer_clear (b : C_rdsparser_buffer) (hu : b.data_used.af.buffer.length = 26)
    (ht : b.data_temp.af.buffer.length = 26) :
    c_rdsparser_buffer_clear b = ⟨tb_dataCleared, tb_dataCleared, b.extended_check⟩ := by
  unfold c_rdsparser_buffer_clear
  simp only [tb_data_clear _ hu, tb_data_clear _ ht]

theorem tb_getS0 (a b : CStr) : getS [a, b] 0 = a := rfl
theorem tb_getS1 (a b : CStr) : getS [a, b] 1 = b := rfl

/-- Stated up to `SameModelled`: whether `rdsparser_clear` resets a field that `abs` and `CInv` do not read is outside
the statement. -/
theorem tb_clear_eq (r : C_librdsparser) (a b : CStr) (hrt : r.rt = [a, b])
    (hu : r.buffer.data_used.af.buffer.length = 26) (ht : r.buffer.data_temp.af.buffer.length = 26) :
    SameModelled (c_rdsparser_clear r)
      { r with buffer := ⟨tb_dataCleared, tb_dataCleared, r.buffer.extended_check⟩,
               ps := c_rdsparser_string_clear r.ps,
               rt := [c_rdsparser_string_clear a, c_rdsparser_string_clear b],
               ptyn := c_rdsparser_string_clear r.ptyn, last_rt_flag := -1 } := by
  unfold c_rdsparser_clear
  simp only [tb_buffer_clear _ hu ht, hrt]
  -- component by component, by evaluation (which also runs a loop over the two RadioTexts, should the C have one)
  and_intros <;> rfl

theorem tb_clear_refines (r : C_librdsparser) (hI : CInv r) :
    abs (c_rdsparser_clear r) = clearState (abs r) ∧ CInv (c_rdsparser_clear r) := by
  obtain ⟨a, b, hrt⟩ := len2 r.rt hI.rtLen
  have ha : StrOk a 64 := (hrt ▸ hI.rt0 : StrOk (getS [a, b] 0) 64)
  have hb : StrOk b 64 := (hrt ▸ hI.rt1 : StrOk (getS [a, b] 1) 64)
  obtain ⟨p1, p2⟩ := string_clear_refines r.ps 8 hI.ps
  obtain ⟨a1, a2⟩ := string_clear_refines a 64 ha
  obtain ⟨b1, b2⟩ := string_clear_refines b 64 hb
  obtain ⟨n1, n2⟩ := string_clear_refines r.ptyn 8 hI.ptyn
  have hsm := tb_clear_eq r a b hrt hI.used.af.1 hI.temp.af.1
  rw [hsm.abs_eq]
  refine ⟨?_, hsm.inv ?_⟩
  · simp only [abs, clearState, absSet, absCbs, tb_getS0, tb_getS1, hrt, tb_absData_cleared, p1, a1, b1, n1,
      p2.term, a2.term, b2.term, n2.term, hI.ps.term, ha.term, hb.term, hI.ptyn.term]
  · exact { hI with
      used := tb_dataOk_cleared, temp := tb_dataOk_cleared, ps := p2, rtLen := rfl, rt0 := a2, rt1 := b2, ptyn := n2,
      lastRt := Or.inl rfl }

/-- the state `rdsparser_init` hands to `rdsparser_clear`: zeroed, buffer initialised, the four sizes set; written by hand
after the translated `c_rdsparser_init`, `tb_init_eq` ties it -/
def tb_pre : C_librdsparser :=
  { C_librdsparser.zero with
    buffer := ⟨tb_dataCleared, tb_dataCleared, 0⟩,
    ps := { CStr.zero 8 with size := 8 },
    rt := [{ CStr.zero 64 with size := 64 }, { CStr.zero 64 with size := 64 }],
    ptyn := { CStr.zero 8 with size := 8 } }

theorem tb_init_eq (r : C_librdsparser) : c_rdsparser_init r = c_rdsparser_clear tb_pre := by
  have hz : (C_rdsparser_buffer.zero).data_used.af.buffer.length = 26 := by decide
  have hz' : (C_rdsparser_buffer.zero).data_temp.af.buffer.length = 26 := by decide
  unfold c_rdsparser_init c_rdsparser_buffer_init
  simp only [show C_librdsparser.zero.buffer = C_rdsparser_buffer.zero from rfl, tb_buffer_clear _ hz hz']
  rfl

theorem tb_strOk_zero (cap : Nat) : StrOk { CStr.zero cap with size := cap } cap :=
  StrOk.replicate cap (by decide) (by decide)

theorem tb_inv_pre : CInv tb_pre :=
  { used := tb_dataOk_cleared, temp := tb_dataOk_cleared, ext := Or.inl rfl,
    ps := tb_strOk_zero 8, rtLen := rfl, rt0 := tb_strOk_zero 64, rt1 := tb_strOk_zero 64, ptyn := tb_strOk_zero 8,
    progLen := rfl, prog := by decide, corrLen := rfl, corr := by decide, lastRt := Or.inr (Or.inl rfl),
    ud := Int.le_refl 0 }

theorem tb_clearState_pre : clearState (abs tb_pre) = initState := by
  decide +kernel

theorem tb_init_refines (r : C_librdsparser) :
    abs (c_rdsparser_init r) = initState ∧ CInv (c_rdsparser_init r) := by
  rw [tb_init_eq]
  have h := tb_clear_refines tb_pre tb_inv_pre
  rw [tb_clearState_pre] at h
  exact h

end RDS.C

#print axioms RDS.C.set_field_refines
#print axioms RDS.C.add_af_refines
#print axioms RDS.C.set_extended_check_refines
#print axioms RDS.C.set_text_correction_refines
#print axioms RDS.C.set_text_progressive_refines
#print axioms RDS.C.set_user_data_refines
#print axioms RDS.C.register_refines
#print axioms RDS.C.tb_init_refines
#print axioms RDS.C.tb_clear_refines
