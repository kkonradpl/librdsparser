import RdsModel.Generated
import RdsModel.Text
import RdsSpec.Reference
import RdsSpec.TableCheck
import RdsSpec.Statements
/-!
# RdsProofs.TableBase — lifting lemmas, well-formedness of the reference tables, constants the model hard-codes

`Generated.*` is read out of the compiled library on every run; `Reference.*` is the hand-written
oracle. Every table theorem (here and in `TableC02/C11/C18/C20`) rests on closed, finite `Bool` facts evaluated by the
kernel (`decide +kernel`) over the *whole* table (one pass: indexing a 256-entry list per cell is quadratic in the
kernel), then lifted to `∀` by the `tbl_…` lemmas below.
-/

namespace RDS
open RDS.TableCheck

theorem tbl_getD_of_eq_map_range {α : Type} {l : List α} {n : Nat} {f : Nat → α}
    (h : l = (List.range n).map f) (a : Nat) (ha : a < n) (d : α) : l.getD a d = f a := by
  subst h
  simp [List.getD_eq_getElem?_getD, ha]

theorem tbl_getD_set_ne {α : Type} (l : List α) {i a : Nat} (v d : α) (h : i ≠ a) :
    (l.set i v).getD a d = l.getD a d := by
  simp [List.getD_eq_getElem?_getD, List.getElem?_set_ne h]

theorem tbl_getD_mem_or_default {α : Type} (l : List α) (i : Nat) (d : α) :
    l.getD i d ∈ l ∨ l.getD i d = d := by
  rw [List.getD_eq_getElem?_getD]
  cases h : l[i]? with
  | none => exact Or.inr rfl
  | some x => exact Or.inl (List.mem_of_getElem? h)

theorem tbl_getD_all {α : Type} {l : List α} {p : α → Prop} (h : ∀ x ∈ l, p x) (i : Nat) (d : α) (hd : p d) :
    p (l.getD i d) := by
  rcases tbl_getD_mem_or_default l i d with hm | hm
  · exact h _ hm
  · rw [hm]; exact hd

/-- a table given as the images of a reference list, padded with the image of a default row: reading
it is reading the reference with that default. (Comparing with `(List.range n).map (f ∘ r.getD · d)`
instead makes the kernel walk `r` once per cell.) -/
theorem tbl_getD_of_eq_map_append {α β : Type} {g : List β} {r : List α} {k : Nat} {f : α → β} (d : α)
    (h : g = r.map f ++ List.replicate k (f d)) (a : Nat) (ha : a < r.length + k) (x : β) :
    g.getD a x = f (r.getD a d) := by
  subst h
  simp only [List.getD_eq_getElem?_getD]
  rcases Nat.lt_or_ge a r.length with hr | hr
  · rw [List.getElem?_append_left (by simpa using hr)]
    simp [hr]
  · rw [List.getElem?_append_right (by simpa using hr)]
    simp [List.getElem?_eq_none hr, show a - r.length < k by omega]

theorem tbl_zipIdx_all {α : Type} {l : List α} {p : Nat → α → Bool}
    (h : l.zipIdx.all (fun xi => p xi.2 xi.1) = true) (i : Nat) (d : α) (hi : i < l.length) :
    p i (l.getD i d) = true := by
  have hx : l[i]? = some (l.getD i d) := by
    simp [List.getD_eq_getElem?_getD, List.getElem?_eq_getElem hi]
  exact List.all_eq_true.mp h (l.getD i d, i) (List.mem_zipIdx_iff_getElem?.mpr hx)

/-- guards against a malformed oracle -/
theorem tbl_reference_shape :
    Reference.g0.length = 224 ∧
    Reference.countries.map (fun r => r.1.enumerator) = List.range Reference.countryCount ∧
    Reference.eccCodes =
      [0xA0, 0xA1, 0xA2, 0xA3, 0xA4, 0xA5, 0xA6, 0xD0, 0xD1, 0xD2, 0xD3, 0xD4,
       0xE0, 0xE1, 0xE2, 0xE3, 0xE4, 0xE5, 0xF0, 0xF1, 0xF2, 0xF3, 0xF4] ∧
    Reference.iecColumns.all (fun c => c.2.length == 15) = true ∧
    Reference.iecTable.map List.length = List.replicate 17 256 ∧
    (∀ t r, (Reference.pty t r).length = 32) := by
  refine ⟨by decide +kernel, by decide +kernel, by decide +kernel, by decide +kernel,
    by decide +kernel, ?_⟩
  intro t r; cases t <;> cases r <;> decide +kernel

/-- the cells of `row` (columns counted from `i`) at the ascending column numbers `ps` -/
def tbl_pick : List Nat → List Nat → Nat → List Nat
  | [], _, _ => []
  | _ :: _, [], _ => []
  | x :: xs, p :: ps, i =>
    if i == p then x :: tbl_pick xs ps (i + 1) else tbl_pick xs (p :: ps) (i + 1)

/-- the linear row builder puts every entry of `iecColumns` at its (nibble, ECC) address: row
`k + 2` of `iecTable`, read at the 23 allocated ECC columns, is the `k`-th entry of every column
(with `C11_unknown` for all other cells this characterises `Reference.iecTable`) -/
theorem tbl_iec_columns :
    (Reference.iecTable.drop 2).zipIdx.all (fun rk =>
      tbl_pick rk.1 Reference.eccCodes 0 ==
        Reference.iecColumns.map (fun c => (c.2.getD rk.2 .unknown).enumerator)) = true ∧
    Reference.iecTable.length = 17 := by
  refine ⟨by decide +kernel, by decide +kernel⟩

theorem tbl_countries_length : Reference.countries.length = 221 := by decide +kernel

theorem tbl_generated_lengths :
    Generated.g0.length = 256 ∧ Generated.narrow.length = 256 ∧
    Generated.countryName.length = 256 ∧ Generated.countryIso.length = 256 ∧
    Generated.eccCountry.map List.length = List.replicate 17 256 := by
  refine ⟨by decide +kernel, by decide +kernel, by decide +kernel, by decide +kernel,
    by decide +kernel⟩

theorem caps_match :
    Generated.capPs = RDS.capPs ∧ Generated.capRt = RDS.capRt ∧ Generated.capPtyn = RDS.capPtyn ∧
    Generated.afBytes * 8 = RDS.afBits := by decide +kernel

theorem consts_match :
    Generated.errNone = 0 ∧ Generated.errSmall = 1 ∧ Generated.errLarge = 2 ∧
    Generated.errUncorrectable = 3 ∧ Generated.strUncorrectable = 10 ∧
    Generated.strUncorrectable = RDS.blank.lvl ∧
    Generated.countryUnknown = 0 ∧ Generated.countryCount = Reference.countryCount ∧
    Generated.piUnknown = -1 ∧ Generated.ptyUnknown = -1 ∧ Generated.tpUnknown = -1 ∧
    Generated.taUnknown = -1 ∧ Generated.msUnknown = -1 ∧ Generated.eccUnknown = -1 ∧
    RDS.Scalars.cleared.pi = Generated.piUnknown ∧ RDS.Scalars.cleared.pty = Generated.ptyUnknown ∧
    RDS.Scalars.cleared.tp = Generated.tpUnknown ∧ RDS.Scalars.cleared.ta = Generated.taUnknown ∧
    RDS.Scalars.cleared.ms = Generated.msUnknown ∧ RDS.Scalars.cleared.ecc = Generated.eccUnknown ∧
    RDS.Scalars.cleared.country = (Generated.countryUnknown : Int) ∧
    Generated.textPs = 0 ∧ Generated.textRt = 1 ∧ Generated.textPtyn = 2 ∧
    Generated.typeInfo = 0 ∧ Generated.typeData = 1 ∧
    Generated.rtFlagA = 0 ∧ Generated.rtFlagB = 1 ∧
    Generated.unicodeFlagDefault = 1 ∧ Generated.unicodeFlagNarrow = 0 := by decide +kernel

#print axioms tbl_reference_shape
#print axioms tbl_iec_columns
#print axioms tbl_generated_lengths
#print axioms caps_match
#print axioms consts_match

end RDS
