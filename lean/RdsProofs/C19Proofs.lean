import RdsModel
/-!
# C19: instances are isolated (model level)
-/
namespace RDS

theorem c19_World_get_set_ne (w : World) (c i : Nat) (x : Option State) (hi : i ≠ c) :
    (World.get { w with slots := w.slots.set c x } i) = w.get i := by
  simp only [World.get, List.getD_eq_getElem?_getD, List.getElem?_set]
  have : ¬ c = i := fun e => hi e.symm
  simp [this]

theorem c19_World_get_set_self (w : World) (c : Nat) (x : Option State) (hc : c < w.slots.length) :
    (World.get { w with slots := w.slots.set c x } c) = x := by
  simp only [World.get, List.getD_eq_getElem?_getD, List.getElem?_set]
  simp [hc]

theorem c19_mstep_fst (cfg : Cfg) (w : World) (m : MOp) (hm : ∀ j, m ≠ .select j) :
    (mstep cfg w m).1 = w ∨ ∃ x, (mstep cfg w m).1 = { w with slots := w.slots.set w.cur x } := by
  cases m with
  | select j => exact absurd rfl (hm j)
  | mallocFail | freeNull => exact .inl rfl
  | create | destroy => exact .inr ⟨_, rfl⟩
  | op o =>
    simp only [mstep]
    split
    · exact .inl rfl
    · exact .inr ⟨_, rfl⟩

/-- an operation on the current slot never changes another slot -/
theorem C19_other_slots (cfg : Cfg) (w : World) (m : MOp) (i : Nat) (hi : i ≠ w.cur) (_hlen : w.slots.length = numSlots) :
    (mstep cfg w m).1.get i = w.get i := by
  by_cases hsel : ∃ j, m = .select j
  · obtain ⟨j, rfl⟩ := hsel; rfl
  · rcases c19_mstep_fst cfg w m (fun j e => hsel ⟨j, e⟩) with e | ⟨x, e⟩ <;> rw [e]
    exact c19_World_get_set_ne w w.cur i x hi

/-- `select` changes no slot at all -/
theorem C19_select (cfg : Cfg) (w : World) (j i : Nat) : (mstep cfg w (.select j)).1.get i = w.get i := rfl

/-- what the current slot does is exactly what a solo parser would do -/
theorem C19_cur (cfg : Cfg) (w : World) (o : Op) (s : State) (h : w.get w.cur = some s)
    (hcur : w.cur < numSlots) (hlen : w.slots.length = numSlots) :
    (mstep cfg w (.op o)).1.get w.cur = some (step cfg s o).1 ∧
    (mstep cfg w (.op o)).2 = (step cfg s o).2 := by
  have hm : mstep cfg w (.op o) =
      ({ w with slots := w.slots.set w.cur (some (step cfg s o).1) }, (step cfg s o).2.1, (step cfg s o).2.2) := by
    simp only [mstep, h]
  rw [hm]
  exact ⟨c19_World_get_set_self w w.cur _ (by omega), rfl⟩

/-- `rfl`: the model is a function, so at this level determinism has no content -/
theorem C19_deterministic (cfg : Cfg) (ops : List Op) : run cfg ops = run cfg ops := rfl

/-- the ops that an interleaved schedule applies to slot i:
cur, schedule ↦ subsequence of non-select ops issued while cur = i -/
def soloOf (i : Nat) : Nat → List MOp → List MOp
  | _, [] => []
  | _, .select j :: rest => soloOf i (j % numSlots) rest
  | cur, m :: rest => if cur = i then m :: soloOf i cur rest else soloOf i cur rest

def mrun (cfg : Cfg) (w : World) (ms : List MOp) : World := ms.foldl (fun w m => (mstep cfg w m).1) w

theorem c19_mstep_cur_eq (cfg : Cfg) (w : World) (m : MOp) (hm : ∀ j, m ≠ .select j) :
    (mstep cfg w m).1.cur = w.cur := by
  rcases c19_mstep_fst cfg w m hm with e | ⟨x, e⟩ <;> rw [e]

theorem c19_mstep_slots_length (cfg : Cfg) (w : World) (m : MOp) :
    (mstep cfg w m).1.slots.length = w.slots.length := by
  by_cases hsel : ∃ j, m = .select j
  · obtain ⟨j, rfl⟩ := hsel; rfl
  · rcases c19_mstep_fst cfg w m (fun j e => hsel ⟨j, e⟩) with e | ⟨x, e⟩ <;> rw [e]
    exact List.length_set

theorem c19_mstep_cur_lt (cfg : Cfg) (w : World) (m : MOp) (hcur : w.cur < numSlots) :
    (mstep cfg w m).1.cur < numSlots := by
  by_cases hsel : ∃ j, m = .select j
  · obtain ⟨j, rfl⟩ := hsel; exact Nat.mod_lt _ (by decide)
  · rw [c19_mstep_cur_eq cfg w m (fun j e => hsel ⟨j, e⟩)]; exact hcur

/-- what an operation does to the content of the slot it is issued on -/
def c19_slotStep (cfg : Cfg) : MOp → Option State → Option State
  | .create, _ => some initState
  | .destroy, _ => none
  | .op o, x => x.map fun s => (step cfg s o).1
  | _, x => x

theorem c19_mstep_get_cur (cfg : Cfg) (w : World) (m : MOp) (hcur : w.cur < w.slots.length) :
    (mstep cfg w m).1.get w.cur = c19_slotStep cfg m (w.get w.cur) := by
  cases m with
  | select _ | mallocFail | freeNull => rfl
  | create | destroy => exact c19_World_get_set_self w w.cur _ hcur
  | op o =>
    simp only [mstep, c19_slotStep]
    cases hs : w.get w.cur with
    | none => exact hs
    | some s => exact c19_World_get_set_self w w.cur _ hcur

theorem c19_mstep_get_cur_congr (cfg : Cfg) (w w' : World) (m : MOp) (i : Nat) (hc : w.cur = i) (hc' : w'.cur = i)
    (hl : i < w.slots.length) (hl' : i < w'.slots.length) (hg : w.get i = w'.get i) :
    (mstep cfg w m).1.get i = (mstep cfg w' m).1.get i := by
  have e := c19_mstep_get_cur cfg w m (hc ▸ hl)
  have e' := c19_mstep_get_cur cfg w' m (hc' ▸ hl')
  rw [hc] at e
  rw [hc'] at e'
  rw [e, e', hg]

/-- generalised isolation: two worlds that agree on slot `i`, the second one having `i` selected -/
theorem c19_isolation_aux (cfg : Cfg) (i : Nat) (ms : List MOp) :
    ∀ (w w' : World), w.slots.length = numSlots → w'.slots.length = numSlots →
      w.cur < numSlots → w'.cur = i → w.get i = w'.get i →
      (mrun cfg w ms).get i = (mrun cfg w' (soloOf i w.cur ms)).get i := by
  induction ms with
  | nil => intro w w' _ _ _ _ hg; exact hg
  | cons m rest ih =>
    intro w w' hl hl' hcur hc' hg
    by_cases hsel : ∃ j, m = .select j
    · obtain ⟨j, rfl⟩ := hsel
      simp only [soloOf, mrun, List.foldl_cons]
      exact ih (mstep cfg w (.select j)).1 w' hl hl' (Nat.mod_lt _ (by decide)) hc' hg
    · have hm : ∀ j, m ≠ .select j := fun j e => hsel ⟨j, e⟩
      have hso : soloOf i w.cur (m :: rest) =
          if w.cur = i then m :: soloOf i w.cur rest else soloOf i w.cur rest := by
        cases m with
        | select j => exact absurd rfl (hm j)
        | _ => rfl
      rw [hso]
      have hcur1 : (mstep cfg w m).1.cur = w.cur := c19_mstep_cur_eq cfg w m hm
      have hl1 : (mstep cfg w m).1.slots.length = numSlots := c19_mstep_slots_length cfg w m ▸ hl
      have ih1 := ih (mstep cfg w m).1
      rw [hcur1] at ih1
      by_cases hci : w.cur = i
      · -- the op goes to slot `i` in both worlds
        rw [if_pos hci]
        have hil : i < numSlots := hci ▸ hcur
        have hg1 : (mstep cfg w m).1.get i = (mstep cfg w' m).1.get i :=
          c19_mstep_get_cur_congr cfg w w' m i hci hc' (hl.symm ▸ hil) (hl'.symm ▸ hil) hg
        exact ih1 (mstep cfg w' m).1 hl1 (c19_mstep_slots_length cfg w' m ▸ hl') hcur
          ((c19_mstep_cur_eq cfg w' m hm).trans hc') hg1
      · -- the op goes to another slot in `w` and is not part of the solo schedule
        rw [if_neg hci]
        exact ih1 w' hl1 hl' hcur hc' ((C19_other_slots cfg w m i (fun e => hci e.symm) hl).trans hg)

/-- slot i after an arbitrary interleaving = slot i after its own ops alone (run with slot i selected) -/
theorem C19_isolation (cfg : Cfg) (w : World) (ms : List MOp) (i : Nat) (hi : i < numSlots)
    (hlen : w.slots.length = numSlots) (hcur : w.cur < numSlots) :
    (mrun cfg w ms).get i = (mrun cfg { w with cur := i } (soloOf i w.cur ms)).get i :=
  c19_isolation_aux cfg i ms w { w with cur := i } hlen hlen hcur rfl rfl

#print axioms C19_other_slots
#print axioms C19_select
#print axioms C19_cur
#print axioms C19_deterministic
#print axioms C19_isolation

end RDS
