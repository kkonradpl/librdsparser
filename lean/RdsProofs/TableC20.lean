import RdsProofs.TableBase
import RdsProofs.TableC02
/-!
# RdsProofs.TableC20 — kernel-checked theorems about the RDSPARSER_DISABLE_UNICODE build's tables (C20)

Whole-table facts evaluated by the kernel, lifted to `∀` by the `tbl_…` lemmas of `RdsProofs.TableBase` (see there).
-/

namespace RDS
open RDS.TableCheck

theorem C20_narrow_stored : Generated.narrowStored = storedExpected := eq_of_beq (by decide +kernel)
theorem C20_narrow_values : Generated.narrow = narrowExpected := eq_of_beq (by decide +kernel)

theorem C20_narrow_table : ∀ b, b < 256 →
    Generated.narrowStored.getD b false = (b == 0x0D || decide (0x20 ≤ b)) ∧
    Generated.narrow.getD b 0 =
      (if b = 0x0D then 0 else if b < 0x20 then 32 else if b < 0x7F then b else 0x20) := by
  intro b hb
  rw [tbl_getD_of_eq_map_range C20_narrow_stored b hb, tbl_getD_of_eq_map_range C20_narrow_values b hb]
  simp [Reference.stored, Reference.narrowValue, Reference.notStored]

/-- the narrow rule is the model's `conv` on every stored byte -/
theorem C20_narrow_is_conv : ∀ b, b < 256 → (b = 0x0D ∨ 0x20 ≤ b) →
    Generated.narrow.getD b 0 = RDS.conv (Generated.cfg false) b := by
  intro b hb hs
  rw [(C20_narrow_table b hb).2]
  show _ = if b = 0x0D then 0 else if 0x7F ≤ b then 0x20 else b
  by_cases h0 : b = 0x0D
  · rw [if_pos h0, if_pos h0]
  · rw [if_neg h0, if_neg h0, if_neg (by omega)]
    by_cases h7 : b < 0x7F
    · rw [if_pos h7, if_neg (by omega)]
    · rw [if_neg h7, if_pos (by omega)]

theorem C20_consts :
    Generated.constsAgree = true ∧ Generated.eccCountryNarrowAgrees = true ∧
    Generated.lookupsNarrowAgree = true := by decide +kernel

/-- G0 on the ISO 646 range: the identity except for the four code positions that IEC 62106
assigns differently (¤ for $, ― for ^, ‖ for `, ¯ for ~) -/
def tbl_asciiVal (b : Nat) : Nat :=
  if b = 0x24 then 0xA4 else if b = 0x5E then 0x2015 else if b = 0x60 then 0x2016
  else if b = 0x7E then 0xAF else b

theorem C20_g0_ascii : ∀ b, 0x20 ≤ b → b ≤ 0x7E → Generated.g0.getD b 0 = tbl_asciiVal b := by
  intro b h20 h7e
  have h := tbl_zipIdx_all (l := Generated.g0)
    (p := fun i x => decide (i < 0x20) || decide (0x7E < i) || x == tbl_asciiVal i)
    (by decide +kernel) b 0 (by rw [tbl_generated_lengths.1]; omega)
  have h1 : ¬ b < 0x20 := by omega
  have h2 : ¬ 0x7E < b := by omega
  simpa [h1, h2] using h

/-- left inverse of `tbl_asciiVal` on 0..0x7E: the four substitutes lie above 0x7E and differ -/
def tbl_asciiInv (v : Nat) : Nat :=
  if v = 0xA4 then 0x24 else if v = 0x2015 then 0x5E else if v = 0x2016 then 0x60
  else if v = 0xAF then 0x7E else v

theorem tbl_asciiInv_val (b : Nat) (h : b ≤ 0x7E) : tbl_asciiInv (tbl_asciiVal b) = b := by
  unfold tbl_asciiVal
  split
  · next e => rw [e]; rfl
  · split
    · next e => rw [e]; rfl
    · split
      · next e => rw [e]; rfl
      · split
        · next e => rw [e]; rfl
        · rw [tbl_asciiInv, if_neg, if_neg, if_neg, if_neg] <;> omega

/-- on 0x20..0x7E the default build's table is injective, fixes the space and never yields 0 -/
theorem C20_g0_injective_ascii :
    (∀ a b, 0x20 ≤ a → a ≤ 0x7E → 0x20 ≤ b → b ≤ 0x7E →
      Generated.g0.getD a 0 = Generated.g0.getD b 0 → a = b) ∧
    Generated.g0.getD 0x20 0 = 0x20 ∧
    (∀ a, 0x20 ≤ a → a ≤ 0x7E → Generated.g0.getD a 0 ≠ 0) := by
  refine ⟨?_, by decide +kernel, ?_⟩
  · intro a b ha ha' hb hb' heq
    rw [C20_g0_ascii a ha ha', C20_g0_ascii b hb hb'] at heq
    rw [← tbl_asciiInv_val a ha', heq, tbl_asciiInv_val b hb']
  · intro a ha ha'
    exact C02_no_nul a ha (by omega) (by omega)

#print axioms C20_narrow_table
#print axioms C20_narrow_is_conv
#print axioms C20_consts
#print axioms C20_g0_ascii
#print axioms C20_g0_injective_ascii

end RDS
