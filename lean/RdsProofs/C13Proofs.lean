import RdsModel
import RdsSpec.Monitors
import RdsSpec.Statements
import RdsProofs.Inv
import RdsProofs.Frame
/-!
# C13: reset forgets history, keeps settings
-/
namespace RDS

theorem c13_initState_ps : initState.ps = List.replicate capPs blank := rfl
theorem c13_initState_rt0 : initState.rt0 = List.replicate capRt blank := rfl
theorem c13_initState_rt1 : initState.rt1 = List.replicate capRt blank := rfl
theorem c13_initState_ptyn : initState.ptyn = List.replicate capPtyn blank := rfl

theorem c13_ofState_initWith (set : Settings) (cbs : List Bool) (ud : Nat) :
    Obs.ofState { initState with set := set, cbs := cbs, ud := ud } = Obs.fresh set := by
  have e8 : TextObs.ofText (List.replicate capPs blank) 0 = blankText capPs := by decide
  have e64 : TextObs.ofText (List.replicate capRt blank) 0 = blankText capRt := by decide
  have e8' : TextObs.ofText (List.replicate capPtyn blank) 0 = blankText capPtyn := by decide
  show Obs.mk Scalars.cleared (TextObs.ofText (List.replicate capPs blank) 0)
      (TextObs.ofText (List.replicate capRt blank) 0) (TextObs.ofText (List.replicate capRt blank) 0)
      (TextObs.ofText (List.replicate capPtyn blank) 0) set = _
  rw [e8, e64, e8']
  rfl

/-- `rdsparser_clear` leaves exactly the freshly-initialised state with the old settings and observers -/
theorem C13_clear_state (tb : Tabs) (s : State) (hw : WF tb s) :
    clearState s = { initState with set := s.set, cbs := s.cbs, ud := s.ud } := by
  show State.mk Scalars.cleared Scalars.cleared s.set s.ps.cleared s.rt0.cleared s.rt1.cleared
      s.ptyn.cleared s.termPs s.termRt0 s.termRt1 s.termPtyn (-1) s.cbs s.ud = _
  simp only [Text.cleared_eq_replicate]
  rw [hw.psLen, hw.rt0Len, hw.rt1Len, hw.ptynLen, hw.termPs, hw.termRt0, hw.termRt1, hw.termPtyn]
  rfl

theorem chkC13_ok (tb : Tabs) (s : State) (op : Op) (hw : WF tb s) : chkC13 (recOf tb.cfg s op) = true := by
  cases op with
  | clear =>
    show (Obs.ofState (clearState s) == Obs.fresh s.set) = true
    rw [C13_clear_state tb s hw, c13_ofState_initWith]
    simp
  | init =>
    show (Obs.ofState initState == Obs.fresh Settings.init) = true
    have : Obs.ofState initState = Obs.fresh Settings.init := c13_ofState_initWith Settings.init _ 0
    rw [this]
    simp
  | _ => rfl

/-- whatever happened before the reset, every continuation behaves as on a fresh parser with the same settings/observers -/
theorem C13_continuation (tb : Tabs) (s : State) (hw : WF tb s) (post : List Op) :
    trace tb.cfg (step tb.cfg s .clear).1 post =
    trace tb.cfg { initState with set := s.set, cbs := s.cbs, ud := s.ud } post := by
  show trace tb.cfg (clearState s) post = _
  rw [C13_clear_state tb s hw]

#print axioms C13_clear_state
#print axioms chkC13_ok
#print axioms C13_continuation

end RDS
