import RdsProofs.WordedBase
import RdsProofs.StateFrames
import RdsProofs.CellsProofs
import RdsProofs.C05Proofs
/-!
# RdsProofs.C16Received — C16: a cell counts as received iff the history contains a reception of it

`ac5_received ops t i` reads "cell `i` of text `t` has been received" off the call history: some call after the last
reset of that text was an accepted reception addressed to that cell. It looks at no parser state, and at the model only
through `Op.group?` (the decoding of a `parseString` argument).
`C16_level_received`: the cell's level differs from 10 ("never received") iff `ac5_received`.
-/
namespace RDS

/-- A/B flag shown by the most recent type-2 group with error-free block B since the last reset (`init` / `clear`);
-1 if there is none -/
def ac5_lastFlag (ops : List Op) : Int :=
  ops.foldl (fun cur op =>
    if op = .init ∨ op = .clear then -1 else
    match op.group? with
    | some g => if g.type = 2 ∧ g.eb = 0 then ((g.b / 16 % 2 : Nat) : Int) else cur
    | none => cur) (-1)

/-- the character rules of C02/C06 that do not look at the cell: control codes other than 0x0D are never taken; 0x0D
and bytes ≥ 0x7F are taken only when block B and the carrying block are error-free -/
def ac5_byteOk (b eb ex : Nat) : Bool :=
  (b = 0x0D || 0x20 ≤ b) && ((b != 0x0D && b < 0x7F) || (eb = 0 && ex = 0))

/-- C08 (`rtNoisy`): a type-2 group whose block B has errors and whose flag differs from the last one seen is ignored
for RT -/
def ac5_noisy (last : Int) (g : Group) : Bool :=
  g.type = 2 && g.eb != 0 && last != -1 && ((g.b / 16 % 2 : Nat) : Int) != last

/-- C08: a type-2 group with error-free block B shows a flag different from the last one seen: the buffer of the NEW
flag (text `1 + flag`) is emptied before the group's characters are taken. C08 (`switchDiscard`) empties it "if it
holds something"; that condition is left out, since emptying an empty buffer changes nothing
(`ac5_next_switch_if_available`). -/
def ac5_flagSwitch (last : Int) (g : Group) (t : Nat) : Bool :=
  g.type = 2 && g.eb = 0 && last != -1 && ((g.b / 16 % 2 : Nat) : Int) != last && t = 1 + g.b / 16 % 2

/-- `g`, delivered after `hist`, is an accepted reception addressed to cell `i` of text `t`: not ignored for RT,
`addressed` (C02) lists the cell with a byte `b` carried by a block of error level `ex`, both error levels are within
the thresholds last written for that text (C06, C17: `lastCorr`), and `b` passes the character rules. -/
def ac5_accepted (hist : List Op) (g : Group) (t i : Nat) : Bool :=
  !ac5_noisy (ac5_lastFlag hist) g &&
  match ((addressed g).filter (fun a => a.1 = t)).find? (fun a => a.2.1 = i) with
  | some (_, _, b, ex) =>
    g.eb ≤ lastCorr (textIdOf t) .info hist && ex ≤ lastCorr (textIdOf t) .data hist && ac5_byteOk b g.eb ex
  | none => false

/-- one call further. A delivered group FIRST forgets the receptions of the RT buffer it switches to, then counts if
it is an accepted reception addressed to the cell. -/
def ac5_next (hist : List Op) (r : Bool) (op : Op) (t i : Nat) : Bool :=
  if op = .init ∨ op = .clear then false else
  match op.group? with
  | none => r
  | some g => (r && !ac5_flagSwitch (ac5_lastFlag hist) g t) || ac5_accepted hist g t i

/-- cell `i` of text `t` (0 = PS, 1 = RT A, 2 = RT B, 3 = PTYN) has been received: a scan of the history, oldest call
first, that carries the history so far and the answer so far -/
def ac5_received (ops : List Op) (t i : Nat) : Bool :=
  (ops.foldl (fun (st : List Op × Bool) op => (st.1 ++ [op], ac5_next st.1 st.2 op t i)) ([], false)).2

theorem ac5_received_nil (t i : Nat) : ac5_received [] t i = false := rfl

theorem ac5_received_snoc (ops : List Op) (op : Op) (t i : Nat) :
    ac5_received (ops ++ [op]) t i = ac5_next ops (ac5_received ops t i) op t i := by
  have scan_fst : ∀ (ops h : List Op) (r : Bool),
      (ops.foldl (fun (st : List Op × Bool) op => (st.1 ++ [op], ac5_next st.1 st.2 op t i)) (h, r)).1 = h ++ ops := by
    intro ops
    induction ops with
    | nil => intro h r; simp
    | cons a l ih => intro h r; rw [List.foldl_cons, ih]; simp
  unfold ac5_received
  rw [List.foldl_append, List.foldl_cons, List.foldl_nil]
  show ac5_next (List.foldl _ ([], false) ops).1 _ op t i = _
  rw [scan_fst, List.nil_append]

theorem ac5_lastFlag_snoc (ops : List Op) (op : Op) :
    ac5_lastFlag (ops ++ [op]) =
      if op = .init ∨ op = .clear then -1 else
      match op.group? with
      | some g => if g.type = 2 ∧ g.eb = 0 then ((g.b / 16 % 2 : Nat) : Int) else ac5_lastFlag ops
      | none => ac5_lastFlag ops := by
  unfold ac5_lastFlag
  rw [List.foldl_append]
  rfl

theorem ac5_next_init (hist : List Op) (r : Bool) (t i : Nat) : ac5_next hist r .init t i = false := by
  simp [ac5_next]

theorem ac5_next_clear (hist : List Op) (r : Bool) (t i : Nat) : ac5_next hist r .clear t i = false := by
  simp [ac5_next]

theorem ac5_next_group {hist : List Op} {r : Bool} {op : Op} {g : Group} {t i : Nat} (hg : op.group? = some g) :
    ac5_next hist r op t i = ((r && !ac5_flagSwitch (ac5_lastFlag hist) g t) || ac5_accepted hist g t i) := by
  obtain ⟨h1, h2⟩ := Op.ne_reset_of_group hg
  unfold ac5_next
  rw [if_neg (by simp [h1, h2]), hg]

theorem ac5_next_quiet {hist : List Op} {r : Bool} {op : Op} {t i : Nat} (hg : op.group? = none)
    (h1 : op ≠ .init) (h2 : op ≠ .clear) : ac5_next hist r op t i = r := by
  unfold ac5_next
  rw [if_neg (by simp [h1, h2]), hg]

theorem ac5_lastFlag_run (cfg : Cfg) (ops : List Op) : (run cfg ops).lastRt = ac5_lastFlag ops := by
  induction ops using List.snoc_ind with
  | nil => rfl
  | snoc l a ih =>
    rw [ac5_lastFlag_snoc]
    rcases a.kind_cases with h | h | ⟨g, hg⟩ | ⟨hg, h1, h2⟩
    · subst h; rw [run_snoc]; rfl
    · subst h; rw [run_snoc]; rfl
    · -- a delivered group: the monitor keeps the same flag (`Link`), and `Mon.group_lastFlag` says what happens to it
      obtain ⟨h1, h2⟩ := Op.ne_reset_of_group hg
      rw [if_neg (by simp [h1, h2]), hg, ← (linkL_run cfg (l ++ [a])).link.lastFlag, monAfter_snoc,
        Mon.step_group cfg _ hg]
      show ((monAfter cfg l).group cfg g).lastFlag = _
      rw [Mon.group_lastFlag, (linkL_run cfg l).link.lastFlag, ih]
      show _ = if g.type = 2 ∧ g.eb = 0 then _ else _
      unfold selFlag
      split <;> rfl
    · rw [if_neg (by simp [h1, h2]), hg, run_snoc, step_quiet cfg _ hg h1 h2]
      exact ih

/-- The two rules of C06/C07 that look at the old cell ("progressive: only improvements", "identical data with an
equal or worse level is ignored") cannot reject on a never-received cell: with thresholds ≤ 2 every accepted level
is ≤ 9 < 10. -/
theorem ac5_cellSpec_lvl (cfg : Cfg) (info data : Nat) (prog : Bool) (old : Cell) (b eb ex : Nat)
    (hi : info ≤ 2) (hd : data ≤ 2) :
    (cellSpec cfg info data prog old b eb ex).lvl ≠ 10 ↔
      (old.lvl ≠ 10 ∨ (eb ≤ info ∧ ex ≤ data ∧ ac5_byteOk b eb ex = true)) := by
  have hbo : ac5_byteOk b eb ex = true ↔
      ((b = 13 ∨ 32 ≤ b) ∧ ((b ≠ 13 ∧ b < 127) ∨ (eb = 0 ∧ ex = 0))) := by
    simp only [ac5_byteOk, Bool.and_eq_true, Bool.or_eq_true, decide_eq_true_eq, bne_iff_ne, ne_eq]
  have h9 : eb ≤ info → ex ≤ data → calcError eb ex ≤ 9 := fun h1 h2 =>
    calcError_le (Nat.le_trans h1 hi) (Nat.le_trans h2 hd)
  rw [cellSpec_eq, hbo]
  by_cases hst : (decide (eb ≤ info) && decide (ex ≤ data) && storeOk cfg old b eb ex prog) = true
  · -- stored: the new level is a received one, and the store rules contain the byte rules
    rw [if_pos hst]
    simp only [Bool.and_eq_true, decide_eq_true_eq, storeOk_iff] at hst
    obtain ⟨⟨h1, h2⟩, _, hb, he, _⟩ := hst
    have := h9 h1 h2
    refine ⟨fun _ => .inr ⟨h1, h2, hb, ?_⟩, fun _ => by show calcError eb ex ≠ 10; omega⟩
    by_cases hb' : b ≠ 13 ∧ b < 127
    · exact .inl hb'
    · exact .inr (he (by omega))
  · -- not stored: a never-received cell is refused only by the thresholds or the byte rules
    rw [if_neg hst]
    refine ⟨.inl, fun h => h.elim id fun ⟨h1, h2, hb, he⟩ h10 => hst ?_⟩
    have := h9 h1 h2
    simp only [Bool.and_eq_true, decide_eq_true_eq, storeOk_iff]
    exact ⟨⟨h1, h2⟩, fun _ => by omega, hb, fun hb' => he.resolve_left (by omega), fun hc => by omega⟩

theorem ac5_cellSpec_first (cfg : Cfg) (info data : Nat) (prog : Bool) (old : Cell) (b eb ex : Nat)
    (hi : info ≤ 2) (hd : data ≤ 2) (hold : old.lvl = 10) :
    (eb ≤ info ∧ ex ≤ data ∧ ac5_byteOk b eb ex = true) ↔
      (cellSpec cfg info data prog old b eb ex ≠ old ∧ (cellSpec cfg info data prog old b eb ex).lvl ≠ 10) := by
  have h := ac5_cellSpec_lvl cfg info data prog old b eb ex hi hd
  constructor
  · intro hacc
    have hl : (cellSpec cfg info data prog old b eb ex).lvl ≠ 10 := h.2 (Or.inr hacc)
    exact ⟨fun e => hl (by rw [e]; exact hold), hl⟩
  · rintro ⟨_, hl⟩
    rcases h.1 hl with h' | h'
    · exact absurd hold h'
    · exact h'

/-- `ac5_accepted` with the three facts it reads off the history made explicit -/
def ac5_acc (last : Int) (info data : Nat) (g : Group) (t i : Nat) : Bool :=
  !ac5_noisy last g &&
  match ((addressed g).filter (fun a => a.1 = t)).find? (fun a => a.2.1 = i) with
  | some (_, _, b, ex) => g.eb ≤ info && ex ≤ data && ac5_byteOk b g.eb ex
  | none => false

theorem ac5_accepted_eq (hist : List Op) (g : Group) (t i : Nat) :
    ac5_accepted hist g t i =
      ac5_acc (ac5_lastFlag hist) (lastCorr (textIdOf t) .info hist) (lastCorr (textIdOf t) .data hist) g t i := rfl

theorem ac5_getD_cleared (x : Text) (i : Nat) : x.cleared.getD i blank = blank := by
  unfold Text.cleared
  rw [List.getD_eq_getElem?_getD, List.getElem?_map]
  cases x[i]? <;> rfl

theorem ac5_getD_unavailable (x : Text) (i : Nat) (h : getAvailable x = false) : (x.getD i blank).lvl = 10 :=
  Decidable.byContradiction fun hl => Bool.false_ne_true (h ▸ (getAvailable_iff x).mpr ⟨i, hl⟩)

theorem ac5_clr_eq (s : State) (g : Group) (t : Nat) :
    (decide (g.type = 2) && g2clr s g && decide (t = 1 + g.b / 16 % 2)) =
      (ac5_flagSwitch s.lastRt g t && getAvailable (s.text t)) := by
  by_cases ht : t = 1 + g.b / 16 % 2
  · subst ht
    unfold g2clr ac5_flagSwitch
    rw [text_rt _ _ (Nat.mod_lt _ (by decide))]
    simp only [decide_true, Bool.and_true]
    -- the same conjuncts in another order
    generalize decide (g.type = 2) = a
    generalize decide (g.eb = 0) = b
    generalize (((g.b / 16 % 2 : Nat) : Int) != s.lastRt) = c
    generalize (s.lastRt != -1) = d
    cases a <;> cases b <;> cases c <;> cases d <;> rfl
  · unfold ac5_flagSwitch
    simp only [ht, decide_false, Bool.and_false, Bool.false_and]

theorem ac5_noisy_eq (s : State) (g : Group) : (decide (g.type = 2) && g2noisy s g) = ac5_noisy s.lastRt g := by
  unfold g2noisy ac5_noisy
  simp only [Bool.and_assoc]

theorem ac5_old_lvl (s : State) (g : Group) (t i : Nat) :
    (((if (decide (g.type = 2) && g2clr s g && decide (t = 1 + g.b / 16 % 2)) = true
        then (s.text t).cleared else s.text t).getD i blank).lvl ≠ 10) ↔
      (((s.text t).getD i blank).lvl ≠ 10 ∧ ac5_flagSwitch s.lastRt g t = false) := by
  rw [ac5_clr_eq]
  cases hfs : ac5_flagSwitch s.lastRt g t
  · simp
  · cases hav : getAvailable (s.text t)
    · have := ac5_getD_unavailable (s.text t) i hav
      simp only [Bool.and_false, Bool.false_eq_true, if_false]
      constructor
      · intro h; exact absurd this h
      · rintro ⟨_, h⟩; cases h
    · simp only [Bool.and_self, if_true, ac5_getD_cleared]
      simp [blank]

theorem ac5_process_cell (cfg : Cfg) (s : State) (g : Group) (hl : Lens s) (hs : s.set.Ok)
    (t : Nat) (ht : t < 4) (i : Nat) :
    (((process cfg s g).1.text t).getD i blank).lvl ≠ 10 ↔
      ((((s.text t).getD i blank).lvl ≠ 10 ∧ ac5_flagSwitch s.lastRt g t = false) ∨
        ac5_acc s.lastRt (s.set.corr (textIdOf t) .info) (s.set.corr (textIdOf t) .data) g t i = true) := by
  rw [process_getD cfg s g hl t ht i, ac5_noisy_eq]
  have hold := ac5_old_lvl s g t i
  generalize (if (decide (g.type = 2) && g2clr s g && decide (t = 1 + g.b / 16 % 2)) = true
    then (s.text t).cleared else s.text t) = old at hold ⊢
  unfold ac5_acc
  cases hn : ac5_noisy s.lastRt g
  · simp only [Bool.false_eq_true, if_false, Bool.not_false, Bool.true_and]
    cases hf : ((addressed g).filter (fun a => a.1 = t)).find? (fun a => a.2.1 = i) with
    | none => simp only [hold, Bool.false_eq_true, or_false]
    | some x =>
      obtain ⟨x1, x2, xb, xe⟩ := x
      simp only []
      rw [ac5_cellSpec_lvl _ _ _ _ _ _ _ _ (hs.corr_le _ _) (hs.corr_le _ _), hold]
      simp only [Bool.and_eq_true, decide_eq_true_eq, and_assoc]
  · simp only [if_true, List.find?_nil, Bool.not_true, Bool.false_and, Bool.false_eq_true, or_false]
    exact hold

theorem ac5_init_text_getD (t i : Nat) : (initState.text t).getD i blank = blank := by
  match t with
  | 0 | 1 | 2 | _ + 3 => exact getD_replicate_same _ _ _

theorem ac5_clear_text (s : State) (t : Nat) : (clearState s).text t = (s.text t).cleared := by
  match t with
  | 0 | 1 | 2 | _ + 3 => rfl

/-- **C16, "availability is true exactly when some cell has been received": the history link.** For every
configuration and every index `i` (one outside the text reads as a never-received cell), the cell's level differs from
10 = "never received" iff the history contains, after the last reset of that text (`init`, `clear`, or for RT a group
switching to that buffer), an accepted reception addressed to that cell. -/
theorem C16_level_received (cfg : Cfg) (ops : List Op) (t : Nat) (ht : t < 4) :
    ∀ i, (((run cfg ops).text t).getD i blank).lvl ≠ 10 ↔ ac5_received ops t i = true := by
  induction ops using List.snoc_ind with
  | nil =>
    intro i
    show ((initState.text t).getD i blank).lvl ≠ 10 ↔ _
    rw [ac5_init_text_getD, ac5_received_nil]
    simp [blank]
  | snoc l a ih =>
    intro i
    rw [run_snoc, ac5_received_snoc]
    rcases a.kind_cases with h | h | ⟨g, hg⟩ | ⟨hg, h1, h2⟩
    · subst h
      show ((initState.text t).getD i blank).lvl ≠ 10 ↔ _
      rw [ac5_init_text_getD, ac5_next_init]
      simp [blank]
    · subst h
      show (((clearState (run cfg l)).text t).getD i blank).lvl ≠ 10 ↔ _
      rw [ac5_clear_text, ac5_getD_cleared, ac5_next_clear]
      simp [blank]
    · rw [step_group _ _ hg, ac5_next_group hg,
        ac5_process_cell cfg _ g (lens_run cfg l) (setOk_run cfg l) t ht i, ih i, ac5_accepted_eq,
        ac5_lastFlag_run cfg l, (C17_worded cfg l (textIdOf t) .info).1, (C17_worded cfg l (textIdOf t) .data).1]
      generalize ac5_received l t i = r
      generalize ac5_flagSwitch (ac5_lastFlag l) g t = fs
      generalize ac5_acc _ _ _ g t i = ac
      cases r <;> cases fs <;> cases ac <;> simp
    · rw [step_text_none h1 h2 hg, ac5_next_quiet hg h1 h2]
      exact ih i

theorem ac5_received_in_range (ops : List Op) (t : Nat) (ht : t < 4) (i : Nat)
    (h : ac5_received ops t i = true) : i < capOf t := by
  have h1 := (C16_level_received ac5_cfg0 ops t ht i).2 h
  have hlen := (lens_run ac5_cfg0 ops).text t
  by_cases hi : i < capOf t
  · exact hi
  · exfalso
    apply h1
    rw [List.getD_eq_getElem?_getD, List.getElem?_eq_none (by omega)]
    rfl

/-- **C16, availability.** The availability flag a getter reports for text `t` is true exactly when some cell of that
text has been received according to the history. -/
theorem C16_available_received (cfg : Cfg) (ops : List Op) (t : Nat) (ht : t < 4) :
    ((Obs.ofState (run cfg ops)).text t).av = true ↔ ∃ i, i < capOf t ∧ ac5_received ops t i = true := by
  have hav : ((Obs.ofState (run cfg ops)).text t).av = getAvailable ((run cfg ops).text t) := by
    match t, ht with
    | 0, _ | 1, _ | 2, _ | 3, _ => rfl
  rw [hav, getAvailable_iff]
  exact exists_congr fun i => (C16_level_received cfg ops t ht i).trans
    ⟨fun h => ⟨ac5_received_in_range ops t ht i h, h⟩, And.right⟩

/-! ## the same in the property's own words: "there is a call in the history, after the last reset of that text, ..." -/

/-- `op`, called after `hist`, resets text `t`: `init`, `clear`, or a group switching to that RT buffer -/
def ac5_resets (hist : List Op) (op : Op) (t : Nat) : Bool :=
  op = .init || op = .clear ||
  match op.group? with
  | some g => ac5_flagSwitch (ac5_lastFlag hist) g t
  | none => false

def ac5_receives (hist : List Op) (op : Op) (t i : Nat) : Bool :=
  match op.group? with
  | some g => ac5_accepted hist g t i
  | none => false

theorem ac5_next_eq (hist : List Op) (r : Bool) (op : Op) (t i : Nat) :
    ac5_next hist r op t i = ((r && !ac5_resets hist op t) || ac5_receives hist op t i) := by
  rcases op.kind_cases with h | h | ⟨g, hg⟩ | ⟨hg, h1, h2⟩
  · subst h; simp [ac5_next, ac5_resets, ac5_receives, Op.group?]
  · subst h; simp [ac5_next, ac5_resets, ac5_receives, Op.group?]
  · obtain ⟨h1, h2⟩ := Op.ne_reset_of_group hg
    rw [ac5_next_group hg]
    simp [ac5_resets, ac5_receives, hg, h1, h2]
  · rw [ac5_next_quiet hg h1 h2]
    simp [ac5_resets, ac5_receives, hg, h1, h2]

/-- A group that switches to an RT buffer and carries characters for it empties the buffer FIRST, so the same call
may be both the reset and the reception: only resets at later calls `j > k` cancel it. -/
theorem ac5_received_iff_exists (ops : List Op) (t i : Nat) :
    ac5_received ops t i = true ↔
      ∃ k op, ops[k]? = some op ∧ ac5_receives (ops.take k) op t i = true ∧
        ∀ j op', k < j → ops[j]? = some op' → ac5_resets (ops.take j) op' t = false := by
  induction ops using List.snoc_ind with
  | nil => exact ⟨nofun, fun ⟨k, op, h, _⟩ => by simp at h⟩
  | snoc l a ih =>
    -- below `l.length` the longer history looks like `l`, at `l.length` it shows `a`, and that is all of it
    have lo : ∀ {k}, k < l.length → (l ++ [a])[k]? = l[k]? ∧ (l ++ [a]).take k = l.take k := fun h =>
      ⟨List.getElem?_append_left h, List.take_append_of_le_length (Nat.le_of_lt h)⟩
    have top : (l ++ [a])[l.length]? = some a ∧ (l ++ [a]).take l.length = l :=
      ⟨by simp, List.take_left' rfl⟩
    have split : ∀ {j op'}, (l ++ [a])[j]? = some op' → j < l.length ∨ (j = l.length ∧ op' = a) := by
      intro j op' hj
      have hjl := (List.getElem?_eq_some_iff.mp hj).1
      rw [List.length_append] at hjl
      rcases Nat.lt_or_ge j l.length with h | h
      · exact .inl h
      · have e : j = l.length := Nat.le_antisymm (Nat.le_of_lt_succ hjl) h
        subst e
        exact .inr ⟨rfl, Option.some.inj (top.1.symm.trans hj) |>.symm⟩
    rw [ac5_received_snoc, ac5_next_eq, Bool.or_eq_true, Bool.and_eq_true, ih]
    constructor
    · rintro (⟨⟨k, op, hk, hrc, hno⟩, hres⟩ | hrec)
      · have hkl := (List.getElem?_eq_some_iff.mp hk).1
        refine ⟨k, op, (lo hkl).1.trans hk, by rw [(lo hkl).2]; exact hrc, fun j op' hkj hj => ?_⟩
        rcases split hj with hjl | ⟨rfl, rfl⟩
        · rw [(lo hjl).2]; exact hno j op' hkj ((lo hjl).1 ▸ hj)
        · rw [top.2]; simpa using hres
      · exact ⟨l.length, a, top.1, by rw [top.2]; exact hrec, fun j op' hkj hj => by
          rcases split hj with h | ⟨h, _⟩ <;> omega⟩
    · rintro ⟨k, op, hk, hrc, hno⟩
      rcases split hk with hkl | ⟨rfl, rfl⟩
      · rw [(lo hkl).1] at hk
        rw [(lo hkl).2] at hrc
        refine .inl ⟨⟨k, op, hk, hrc, fun j op' hkj hj => ?_⟩, ?_⟩
        · have hjl := (List.getElem?_eq_some_iff.mp hj).1
          have := hno j op' hkj ((lo hjl).1.trans hj)
          rwa [(lo hjl).2] at this
        · have := hno l.length a hkl top.1
          rw [top.2] at this
          simp [this]
      · exact .inr (by rwa [top.2] at hrc)

/-- **C16 history link, existential form.** The cell's level differs from 10 iff some call `k` of the history was an
accepted reception addressed to it and no later call reset that text. -/
theorem C16_level_received_exists (cfg : Cfg) (ops : List Op) (t : Nat) (ht : t < 4) (i : Nat) :
    (((run cfg ops).text t).getD i blank).lvl ≠ 10 ↔
      ∃ k op, ops[k]? = some op ∧ ac5_receives (ops.take k) op t i = true ∧
        ∀ j op', k < j → ops[j]? = some op' → ac5_resets (ops.take j) op' t = false := by
  rw [C16_level_received cfg ops t ht i, ac5_received_iff_exists]

/-- C08 empties the buffer only "if it holds something". Reading the reset with that extra condition (some cell of
the text has been received so far) gives the same answer. -/
theorem ac5_next_switch_if_available (hist : List Op) (op : Op) (g : Group) (t i : Nat) (ht : t < 4)
    (hg : op.group? = some g) :
    ac5_next hist (ac5_received hist t i) op t i =
      ((ac5_received hist t i &&
          !(ac5_flagSwitch (ac5_lastFlag hist) g t && (List.range (capOf t)).any (fun j => ac5_received hist t j))) ||
        ac5_accepted hist g t i) := by
  rw [ac5_next_group hg]
  cases hr : ac5_received hist t i
  · rfl
  · have hi := ac5_received_in_range hist t ht i hr
    have : (List.range (capOf t)).any (fun j => ac5_received hist t j) = true := by
      rw [List.any_eq_true]
      exact ⟨i, List.mem_range.2 hi, hr⟩
    rw [this, Bool.and_true]

/-- `ac5_accepted` is "the model stores into the cell", on a cell that does not count as received or whose buffer the
group switches to -/
theorem ac5_accepted_iff_stores (cfg : Cfg) (ops : List Op) (g : Group) (t : Nat) (ht : t < 4) (i : Nat)
    (hnot : ac5_received ops t i = false ∨ ac5_flagSwitch (ac5_lastFlag ops) g t = true) :
    ac5_accepted ops g t i = true ↔
      (((process cfg (run cfg ops) g).1.text t).getD i blank).lvl ≠ 10 := by
  rw [ac5_process_cell cfg _ g (lens_run cfg ops) (setOk_run cfg ops) t ht i,
    C16_level_received cfg ops t ht i, ac5_accepted_eq, ac5_lastFlag_run cfg ops,
    (C17_worded cfg ops (textIdOf t) .info).1, (C17_worded cfg ops (textIdOf t) .data).1]
  constructor
  · intro h; exact Or.inr h
  · rintro (⟨h1, h2⟩ | h)
    · rcases hnot with h' | h'
      · rw [h'] at h1; cases h1
      · rw [h'] at h2; cases h2
    · exact h

/-- PS: a 0A group at address 1 makes cells 2 and 3 received and no other -/
example :
    (List.range 8).map (ac5_received [.parse ⟨0x1234, 0x0401, 0xE0CD, 0x4142, 0, 0, 0, 0⟩] 0) =
      [false, false, true, true, false, false, false, false] ∧
    (List.range 8).map (fun i => decide
      ((((run ac5_cfg0 [.parse ⟨0x1234, 0x0401, 0xE0CD, 0x4142, 0, 0, 0, 0⟩]).text 0).getD i blank).lvl ≠ 10)) =
      [false, false, true, true, false, false, false, false] := by decide

/-- thresholds and character rules: data level 1 is refused under the default threshold 0, taken after the threshold
is raised (written 5, clamped to 2); the control code 0x09 is never taken -/
example :
    (List.range 8).map (ac5_received
      [.parse ⟨0x1234, 0x0402, 0xE0CD, 0x4142, 0, 0, 0, 1⟩, .setCorr .ps .data 5,
       .parse ⟨0x1234, 0x0403, 0xE0CD, 0x4109, 0, 0, 0, 1⟩] 0) =
      [false, false, false, false, false, false, true, false] := by decide

/-- RT A/B switch: cells 0..3 of RT A are received, a type-2 group with flag B follows, then a group with flag A
addressed to cells 4..7: RT A is emptied first, so cell 0 is no longer received, cell 4 is, and RT B keeps its cell 0;
model and history reading agree -/
example :
    let ops : List Op := [.parse ⟨0x1234, 0x2000, 0x4142, 0x4344, 0, 0, 0, 0⟩,
                          .parse ⟨0x1234, 0x2010, 0x4142, 0x4344, 0, 0, 0, 0⟩,
                          .parse ⟨0x1234, 0x2001, 0x4142, 0x4344, 0, 0, 0, 0⟩]
    (ac5_received ops 1 0 = false ∧ ac5_received ops 1 4 = true ∧ ac5_received ops 2 0 = true) ∧
    ((((run ac5_cfg0 ops).text 1).getD 0 blank).lvl = 10 ∧ (((run ac5_cfg0 ops).text 1).getD 4 blank).lvl = 0 ∧
      (((run ac5_cfg0 ops).text 2).getD 0 blank).lvl = 0) ∧
    ac5_received (ops.take 1) 1 0 = true := by decide

/-- `clear` forgets, a later reception counts again -/
example :
    ac5_received [.parse ⟨0x1234, 0xA001, 0x4142, 0x4344, 0, 0, 0, 0⟩, .clear] 3 4 = false ∧
    ac5_received [.parse ⟨0x1234, 0xA001, 0x4142, 0x4344, 0, 0, 0, 0⟩, .clear,
                  .parseString (some [0x31, 0x32, 0x33, 0x34, 0x41, 0x30, 0x30, 0x31, 0x34, 0x31, 0x34, 0x32, 0x34, 0x33, 0x34, 0x34])]
      3 7 = true := by decide

end RDS
