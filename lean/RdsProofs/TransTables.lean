import RdsProofs.TransAbs
import RdsProofs.TransGroupsBase
import RdsModel.Generated
/-!
# RdsProofs.TransTables — the tables of the C *source text* equal the tables read out of the *compiled* library

`cfgC` takes its charset from the initializer of `charset[]` in `string.c` and its ECC map from the four LUT initializers
of `ecc.c`, as translated by `tools/c2lean.py`; `Generated.cfg` takes both from the behaviour of the compiled library
(extraction T1). Both are regenerated on every run; the equalities are checked by the kernel on the whole tables.
Besides: every value the source's ECC look-up returns, for any argument pair and not only the API's ranges, is a valid
country enumerator (`tt_ecc_range`: `< countryCount`, not just `< 256`).
-/
namespace RDS.C
open RDS

-- both sides walked once: `Generated.g0.getD (i + 32)` per cell would make the kernel walk the list 224 times
theorem tt_charset_table :
    c_rdsparser_string_convert_charset.map Int.toNat = Generated.g0.drop 32 :=
  eq_of_beq (by decide +kernel)

theorem cfgC_g0_generated (u : Bool) (b : Nat) (h0 : 0x20 ≤ b) (h1 : b < 256) :
    (cfgC u).g0 b = (Generated.cfg u).g0 b := by
  have h := congrArg (fun l => l.getD (b - 32) (Int.toNat 32)) tt_charset_table
  simp only [List.getD_eq_getElem?_getD, List.getElem?_map, List.getElem?_drop,
    show 32 + (b - 32) = b by omega] at h
  simp only [cfgC, Generated.cfg, List.getD_eq_getElem?_getD]
  refine Eq.trans ?_ h
  cases c_rdsparser_string_convert_charset[b - 32]? <;> rfl

theorem tt_ecc_table :
    (List.range 16).map (fun (nib : Nat) => (List.range 256).map (fun (e : Nat) =>
      (c_rdsparser_ecc_lookup ((nib : Int) * 4096) (e : Int)).toNat)) =
    Generated.eccCountry.drop 1 :=
  eq_of_beq (by decide +kernel)

theorem cfgC_ecc_generated (u : Bool) (nib e : Nat) (hn : nib < 16) (he : e < 256) :
    (cfgC u).ecc nib e = (Generated.cfg u).ecc nib e := by
  have h := congrArg (fun l => (l.getD nib []).getD e 0) tt_ecc_table
  simp only [List.getD_eq_getElem?_getD, List.getElem?_map, List.getElem?_range hn, List.getElem?_range he,
    Option.map_some, Option.getD_some, List.getElem?_drop, Nat.add_comm 1 nib] at h
  simpa [cfgC, Generated.cfg, List.getD_eq_getElem?_getD] using h

theorem tt_luts_country :
    ∀ T ∈ [c_rdsparser_ecc_a0_a6_lut, c_rdsparser_ecc_d0_d4_lut, c_rdsparser_ecc_e0_e5_lut, c_rdsparser_ecc_f0_f4_lut],
      ∀ row ∈ T, ∀ x ∈ row, 0 ≤ x ∧ x < (Generated.countryCount : Int) := by
  decide +kernel

theorem tt_ecc_range (pi ecc : Int) :
    0 ≤ c_rdsparser_ecc_lookup pi ecc ∧ c_rdsparser_ecc_lookup pi ecc < (Generated.countryCount : Int) :=
  tg_ecc_range _ (by decide) tt_luts_country pi ecc

#print axioms tt_ecc_range
#print axioms cfgC_g0_generated
#print axioms cfgC_ecc_generated
end RDS.C
