import RdsSpec.Monitors
/-!
# RdsProofs.C08Cb — the conjuncts of `chkC04` by name (`chkC04_iff`); the callback clauses of C08 and C10 are among them
-/
namespace RDS

def ownChk (a : Obs) (e : EvObs) : Bool :=
  match e.kind, e.own with
  | .pi, .val v => v == a.sc.pi | .pty, .val v => v == a.sc.pty | .tp, .val v => v == a.sc.tp
  | .ta, .val v => v == a.sc.ta | .ms, .val v => v == a.sc.ms | .ecc, .val v => v == a.sc.ecc
  | .country, .val v => v == a.sc.country
  | .af _, .val v => v == 1
  | .ps, .text c => c == a.ps.cells
  | .rt f, .text c => c == (if f = 0 then a.rt0.cells else a.rt1.cells)
  | .ptyn, .text c => c == a.ptyn.cells
  | .ct _, _ => true
  | _, _ => false

/-- a counting clause of `chkC04`: while callback `c` is registered, `changed` says whether an event of kind `p` occurs -/
def cntOk (cbs : List Bool) (evs : List EvObs) (c : Cb) (p : EvKind → Bool) (changed : Bool) : Prop :=
  (!(cbs.getD c.idx false) || countKind evs p == b2n changed) = true

/-- The conjuncts of `chkC04` for a call that delivers a group, by name. Of the monitor they read the registrations
`cbs` and whether it expects the group to discard the addressed RT (`sd`, with the group's A/B `flag`). -/
structure C04Clauses (cbs : List Bool) (sd : Bool) (flag : Nat) (r : StepRec) : Prop where
  sc : ∀ f : Fld, cntOk cbs r.evs f.cb (· == f.ev) (r.after.sc.get f != r.before.sc.get f)
  ps : cntOk cbs r.evs .ps (· == .ps) (r.after.ps.cells != r.before.ps.cells)
  ptyn : cntOk cbs r.evs .ptyn (· == .ptyn) (r.after.ptyn.cells != r.before.ptyn.cells)
  rt0 : cntOk cbs r.evs .rt (· == .rt 0)
    (r.after.rt0.cells != r.before.rt0.cells || (sd && flag = 0))
  rt1 : cntOk cbs r.evs .rt (· == .rt 1)
    (r.after.rt1.cells != r.before.rt1.cells || (sd && flag = 1))
  rtBad : (!(cbs.getD Cb.rt.idx false) ||
    countKind r.evs (fun k => match k with | .rt f => f ≥ 2 | _ => false) == 0) = true
  af : (!(cbs.getD Cb.af.idx false) ||
    (sortNat (afEventKhz r.evs) == sortNat ((newAfCodes r.before r.after).map (fun v => 87500 + 100 * v)) &&
      (afEventKhz r.evs).length ≤ 2)) = true
  own : r.evs.all (ownChk r.after) = true

theorem chkC04_iff {m : Mon} {r : StepRec} {g : Group} (hg : r.op.group? = some g) :
    chkC04 m r = true ↔ C04Clauses m.cbs (switchDiscard m r.before g) (g.b / 16 % 2) r := by
  unfold chkC04
  rw [hg]
  simp only [Bool.and_eq_true, and_assoc]
  exact ⟨fun ⟨pi, pty, tp, ta, ms, ecc, cty, ps, ptyn, rt0, rt1, rtBad, af, own⟩ =>
      { sc := fun | .pi => pi | .pty => pty | .tp => tp | .ta => ta | .ms => ms | .ecc => ecc | .country => cty
        ps, ptyn, rt0, rt1, rtBad, af, own },
    fun h => ⟨h.sc .pi, h.sc .pty, h.sc .tp, h.sc .ta, h.sc .ms, h.sc .ecc, h.sc .country, h.ps, h.ptyn, h.rt0, h.rt1,
      h.rtBad, h.af, h.own⟩⟩

theorem chkC08cb_of_chkC04 (m : Mon) (r : StepRec) (h : chkC04 m r = true) : chkC08cb m r = true := by
  unfold chkC08cb
  cases hg : r.op.group? with
  | none => rfl
  | some g =>
    have h0 := ((chkC04_iff hg).1 h).rt0
    have h1 := ((chkC04_iff hg).1 h).rt1
    unfold cntOk at h0 h1
    simp only []
    cases hreg : m.cbs.getD Cb.rt.idx false with
    | false => rfl
    | true =>
      cases hsd : switchDiscard m r.before g with
      | false => rfl
      | true =>
        simp only [hreg, hsd, Bool.not_true, Bool.false_or, Bool.true_and] at h0 h1 ⊢
        have hf : g.b / 16 % 2 = 0 ∨ g.b / 16 % 2 = 1 := by omega
        rcases hf with hf | hf
        · rw [hf]; simpa [hf, b2n] using h0
        · rw [hf]; simpa [hf, b2n] using h1

theorem chkC10cb_of_chkC04 (m : Mon) (r : StepRec) (h : chkC04 m r = true) : chkC10cb m r = true := by
  unfold chkC10cb
  cases hg : r.op.group? with
  | none => rfl
  | some g => exact ((chkC04_iff hg).1 h).af

end RDS

#print axioms RDS.chkC08cb_of_chkC04
#print axioms RDS.chkC10cb_of_chkC04
