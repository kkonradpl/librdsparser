import RdsModel
import RdsSpec.Statements
import RdsProofs.Handlers
import RdsProofs.Inv
import RdsProofs.Toy
/-!
# C03: a block whose error level exceeds what is accepted is irrelevant

`usedB` (RdsSpec/Statements.lean) calls block B "used" as soon as its error level is within ANY text's block-B maximum,
whatever group type B carries. `ac3_usedB'` is the type-aware notion: an errored block B is used only by the text handler
of the type it carries (PS for 0A/0B, RT for 2A/2B, PTYN for 10A). Everything is proved for the typed relation
`ac3_sameUsed'` (B compared iff used in the typed sense by EITHER group: judged on one group only it is unsound,
`ac3_sameUsed_onesided_false`); `C03_process`, `C03_trace` for the untyped `sameUsed` are special cases.
-/
namespace RDS

theorem groupCommon_congr (s : State) (g g' : Group) (hea : g.ea = g'.ea) (heb : g.eb = g'.eb)
    (ha : g.ea = 0 → g.a = g'.a) (hb : g.eb = 0 → g.b = g'.b) :
    groupCommon s g = groupCommon s g' := by
  unfold groupCommon
  by_cases h1 : g.ea = 0 <;> by_cases h2 : g.eb = 0
  · simp [← hea, ← heb, h1, h2, ← ha h1, ← hb h2]
  · simp [← hea, ← heb, h1, h2, ← ha h1]
  · simp [← hea, ← heb, h1, h2, ← hb h2]
  · simp [← hea, ← heb, h1, h2]

theorem group0_unusedB (cfg : Cfg) (s : State) (g : Group) (h0 : g.eb ≠ 0)
    (h1 : s.set.psInfo < g.eb) : group0 cfg s g = (s, []) := by
  have hr := parserUpdate_reject_info cfg s.set s.ps .ps g.d g.eb g.ed (2 * (g.b % 4)) h1
  simp [group0, h0, hr]

theorem group1_unusedB (cfg : Cfg) (s : State) (g : Group) (h0 : g.eb ≠ 0) :
    group1 cfg s g = (s, []) := by
  simp [group1, h0]

theorem group4_unusedB (s : State) (g : Group) (h0 : g.eb ≠ 0) :
    group4 s g = (s, []) := by
  simp [group4, h0]

theorem group10_unusedB (cfg : Cfg) (s : State) (g : Group)
    (h1 : s.set.ptynInfo < g.eb) : group10 cfg s g = (s, []) := by
  have hr := fun t w ex pos => parserUpdate_reject_info cfg s.set t .ptyn w g.eb ex pos h1
  simp [group10, hr]

theorem group2_unusedB (cfg : Cfg) (s : State) (g : Group) (h0 : g.eb ≠ 0)
    (h1 : s.set.rtInfo < g.eb) : group2 cfg s g = (s, []) := by
  have hr := fun t w ex pos => parserUpdate_reject_info cfg s.set t .rt w g.eb ex pos h1
  simp [group2, h0, hr, setRt_self]

theorem parserUpdate_congr (cfg : Cfg) (set : Settings) (t : Text) (id : TextId)
    (w w' eb ex pos : Nat) (h : eb ≤ set.corr id .info → ex ≤ set.corr id .data → w = w') :
    parserUpdate cfg set t id w eb ex pos = parserUpdate cfg set t id w' eb ex pos := by
  unfold parserUpdate
  split
  · rename_i hg
    simp only [Bool.and_eq_true, decide_eq_true_eq] at hg
    rw [h hg.1 hg.2]
  · rfl

theorem group0_congr (cfg : Cfg) (s : State) (g g' : Group) (hb : g.b = g'.b)
    (heb : g.eb = g'.eb) (hec : g.ec = g'.ec) (hed : g.ed = g'.ed)
    (hc : g.versionB = false → g.eb = 0 → g.ec = 0 → g.c = g'.c)
    (hd : g.eb ≤ s.set.psInfo → g.ed ≤ s.set.psData → g.d = g'.d) :
    group0 cfg s g = group0 cfg s g' := by
  unfold group0 Group.versionB
  rw [← hb, ← heb, ← hec, ← hed]
  -- the TA/MS writes leave the settings alone, so the PS update sees `s.set` whatever `eb` is
  have hu := fun t pos => parserUpdate_congr cfg s.set t .ps g.d g'.d g.eb g.ed pos hd
  -- the AF pair sits behind a gate: closed, block C is not read; open, block C is the same
  cases hg : (!decide (g.b / 2048 % 2 = 1) && decide (g.eb = 0) && decide (g.ec = 0))
  · simp only [apply_ite Prod.fst, apply_ite State.set, setField_set, ite_self, hu, Bool.false_and,
      Bool.false_eq_true, if_false]
  · simp only [Bool.and_eq_true, Bool.not_eq_true', decide_eq_true_eq] at hg
    rw [hc hg.1.1 hg.1.2 hg.2]
    simp only [apply_ite Prod.fst, apply_ite State.set, setField_set, ite_self, hu]

theorem group1_congr (cfg : Cfg) (s : State) (g g' : Group) (hb : g.b = g'.b)
    (heb : g.eb = g'.eb) (hec : g.ec = g'.ec)
    (hc : g.versionB = false → g.eb = 0 → g.ec = 0 → g.c = g'.c) :
    group1 cfg s g = group1 cfg s g' := by
  unfold group1 Group.versionB
  rw [← hb, ← heb, ← hec]
  cases hg : (!decide (g.b / 2048 % 2 = 1) && decide (g.eb = 0) && decide (g.ec = 0))
  · simp only [Bool.false_and, Bool.false_eq_true, if_false]
  · simp only [Bool.and_eq_true, Bool.not_eq_true', decide_eq_true_eq] at hg
    rw [hc hg.1.1 hg.1.2 hg.2]

theorem group4_congr (s : State) (g g' : Group) (hb : g.b = g'.b)
    (heb : g.eb = g'.eb) (hec : g.ec = g'.ec) (hed : g.ed = g'.ed)
    (hc : g.versionB = false → g.eb = 0 → g.ec = 0 → g.ed = 0 → g.c = g'.c)
    (hd : g.versionB = false → g.eb = 0 → g.ec = 0 → g.ed = 0 → g.d = g'.d) :
    group4 s g = group4 s g' := by
  unfold group4 ctFields Group.versionB
  rw [← hb, ← heb, ← hec, ← hed]
  cases hg : (!decide (g.b / 2048 % 2 = 1) && decide (g.eb = 0) && decide (g.ec = 0) && decide (g.ed = 0))
  · simp only [Bool.false_and, Bool.false_eq_true, if_false]
  · simp only [Bool.and_eq_true, Bool.not_eq_true', decide_eq_true_eq] at hg
    rw [hc hg.1.1.1 hg.1.1.2 hg.1.2 hg.2, hd hg.1.1.1 hg.1.1.2 hg.1.2 hg.2]

theorem group10_congr (cfg : Cfg) (s : State) (g g' : Group) (hb : g.b = g'.b)
    (heb : g.eb = g'.eb) (hec : g.ec = g'.ec) (hed : g.ed = g'.ed)
    (hc : g.versionB = false → g.eb ≤ s.set.ptynInfo → g.ec ≤ s.set.ptynData → g.c = g'.c)
    (hd : g.versionB = false → g.eb ≤ s.set.ptynInfo → g.ed ≤ s.set.ptynData → g.d = g'.d) :
    group10 cfg s g = group10 cfg s g' := by
  unfold group10
  have hv : g'.versionB = g.versionB := by unfold Group.versionB; rw [hb]
  rw [hv, ← hb, ← heb, ← hec, ← hed]
  cases hvb : g.versionB
  · have hu1 := fun t pos => parserUpdate_congr cfg s.set t .ptyn g.c g'.c g.eb g.ec pos (hc hvb)
    have hu2 := fun t pos => parserUpdate_congr cfg s.set t .ptyn g.d g'.d g.eb g.ed pos (hd hvb)
    simp only [hu1, hu2]
  · simp only [Bool.not_true, Bool.false_eq_true, if_false]

theorem group2_congr (cfg : Cfg) (s : State) (g g' : Group) (hb : g.b = g'.b)
    (heb : g.eb = g'.eb) (hec : g.ec = g'.ec) (hed : g.ed = g'.ed)
    (hc : g.versionB = false → g.eb ≤ s.set.rtInfo → g.ec ≤ s.set.rtData → g.c = g'.c)
    (hd : g.eb ≤ s.set.rtInfo → g.ed ≤ s.set.rtData → g.d = g'.d) :
    group2 cfg s g = group2 cfg s g' := by
  have hv : g'.versionB = g.versionB := by unfold Group.versionB; rw [hb]
  -- the toggle detection reads `b` and `eb`
  have ec : g2clr s g' = g2clr s g := by unfold g2clr; rw [hb, heb]
  have e2 : g2s2 s g' = g2s2 s g := by unfold g2s2 g2step; rw [ec, hb, heb]
  rw [group2_eq, group2_eq, e2, ec, ← hb, ← heb]
  -- behind the guard the settings are still `s.set`, so each update reads its block behind the gate of `hc`, `hd`
  unfold g2tail g2u
  rw [hv, ← hb, ← heb, ← hec, ← hed, g2s2_set]
  have hu2 := fun t pos => parserUpdate_congr cfg s.set t .rt g.d g'.d g.eb g.ed pos hd
  cases hvb : g.versionB
  · have hu1 := fun t pos => parserUpdate_congr cfg s.set t .rt g.c g'.c g.eb g.ec pos (hc hvb)
    simp only [hu1, hu2]
  · simp only [Bool.not_true, Bool.false_eq_true, if_false, hu2]

theorem dispatch_congr (cfg : Cfg) (s : State) (g g' : Group) (hb : g.b = g'.b)
    (heb : g.eb = g'.eb) (hec : g.ec = g'.ec) (hed : g.ed = g'.ed)
    (hc : usedC s.set g = true → g.c = g'.c) (hd : usedD s.set g = true → g.d = g'.d) :
    dispatch cfg s g = dispatch cfg s g' := by
  have ht : g'.type = g.type := by simp only [Group.type, hb]
  unfold dispatch
  rw [ht]
  -- in each branch the handler's gates are the clauses of `usedC`, `usedD` for that type
  by_cases h0 : g.type = 0
  · rw [if_pos h0, if_pos h0]
    refine group0_congr cfg s g g' hb heb hec hed (fun hv h1 h2 => hc ?_) (fun h1 h2 => hd ?_)
    · simp [usedC, hv, h0, h1, h2]
    · simp [usedD, h0, h1, h2]
  rw [if_neg h0, if_neg h0]
  by_cases h1 : g.type = 1
  · rw [if_pos h1, if_pos h1]
    refine group1_congr cfg s g g' hb heb hec (fun hv e1 e2 => hc ?_)
    simp [usedC, hv, h1, e1, e2]
  rw [if_neg h1, if_neg h1]
  by_cases h2 : g.type = 2
  · rw [if_pos h2, if_pos h2]
    refine group2_congr cfg s g g' hb heb hec hed (fun hv e1 e2 => hc ?_) (fun e1 e2 => hd ?_)
    · simp [usedC, hv, h2, e1, e2]
    · simp [usedD, h2, e1, e2]
  rw [if_neg h2, if_neg h2]
  by_cases h4 : g.type = 4
  · rw [if_pos h4, if_pos h4]
    refine group4_congr s g g' hb heb hec hed (fun hv e1 e2 e3 => hc ?_) (fun hv e1 e2 e3 => hd ?_)
    · simp [usedC, hv, h4, e1, e2, e3]
    · simp [usedD, hv, h4, e1, e2, e3]
  rw [if_neg h4, if_neg h4]
  by_cases h10 : g.type = 10
  · rw [if_pos h10, if_pos h10]
    refine group10_congr cfg s g g' hb heb hec hed (fun hv e1 e2 => hc ?_) (fun hv e1 e2 => hd ?_)
    · simp [usedC, hv, h10, e1, e2]
    · simp [usedD, hv, h10, e1, e2]
  rw [if_neg h10, if_neg h10]

theorem process_congr (cfg : Cfg) (s : State) (g g' : Group) (hea : g.ea = g'.ea) (heb : g.eb = g'.eb)
    (hec : g.ec = g'.ec) (hed : g.ed = g'.ed) (ha : g.ea = 0 → g.a = g'.a) (hb : g.b = g'.b)
    (hc : usedC s.set g = true → g.c = g'.c) (hd : usedD s.set g = true → g.d = g'.d) :
    process cfg s g = process cfg s g' := by
  have hgc := groupCommon_congr s g g' hea heb ha (fun _ => hb)
  have hdc := dispatch_congr cfg (groupCommon s g).1 g g' hb heb hec hed
    (by rw [groupCommon_set]; exact hc) (by rw [groupCommon_set]; exact hd)
  simp only [process]
  rw [← hgc, ← hdc]

/-- block B is used iff it is error-free (PTY/TP, TA/MS, the group type for AF/ECC/CT), or it is within the
block-B maximum of the text *whose group type it carries* (PS: 0A/0B, RT: 2A/2B, PTYN: 10A) -/
def ac3_usedB' (set : Settings) (g : Group) : Bool :=
  g.eb = 0 || (g.type = 0 && g.eb ≤ set.psInfo) || (g.type = 2 && g.eb ≤ set.rtInfo) ||
  (g.type = 10 && !g.versionB && g.eb ≤ set.ptynInfo)

theorem ac3_usedB'_false (set : Settings) (g : Group) (h : ac3_usedB' set g = false) :
    g.eb ≠ 0 ∧ (g.type = 0 → set.psInfo < g.eb) ∧ (g.type = 2 → set.rtInfo < g.eb) ∧
      (g.type = 10 → g.versionB = false → set.ptynInfo < g.eb) := by
  unfold ac3_usedB' at h
  simp only [Bool.or_eq_false_iff, Bool.and_eq_false_iff, decide_eq_false_iff_not, Bool.not_eq_false'] at h
  obtain ⟨⟨⟨h0, h1⟩, h2⟩, h3⟩ := h
  simp only [Nat.not_le] at h1 h2 h3
  refine ⟨h0, fun e => h1.resolve_left (not_not_intro e), fun e => h2.resolve_left (not_not_intro e), fun e v => ?_⟩
  simp only [v, Bool.false_eq_true, or_false] at h3
  exact h3.resolve_left (not_not_intro e)

theorem ac3_usedB'_of_unused (set : Settings) (g : Group) (h : usedB set g = false) : ac3_usedB' set g = false := by
  unfold usedB anyInfo at h
  unfold ac3_usedB'
  simp only [Bool.or_eq_false_iff, Bool.and_eq_false_iff, decide_eq_false_iff_not] at h ⊢
  exact ⟨⟨⟨h.1, .inr h.2.1.1⟩, .inr h.2.1.2⟩, .inr h.2.2⟩

theorem ac3_dispatch_unusedB' (cfg : Cfg) (s : State) (g : Group) (h : ac3_usedB' s.set g = false) :
    dispatch cfg s g = (s, []) := by
  obtain ⟨h0, h1, h2, h3⟩ := ac3_usedB'_false s.set g h
  refine dispatch_cases (P := fun r => r = (s, [])) cfg s g (fun t0 => group0_unusedB cfg s g h0 (h1 t0)) (fun _ => group1_unusedB cfg s g h0)
    (fun t2 => group2_unusedB cfg s g h0 (h2 t2)) (fun _ => group4_unusedB s g h0) (fun t10 => ?_) (fun _ _ _ _ _ => rfl)
  cases v : g.versionB
  · exact group10_unusedB cfg s g (h3 t10 v)
  · simp [group10, v]

/-- **Exact effect of a group whose block B is unused (typed):** the PI of block A if that block is
error-free, and nothing else — whatever B, C, D and their error codes are. -/
theorem ac3_process_unusedB' (cfg : Cfg) (s : State) (g : Group) (h : ac3_usedB' s.set g = false) :
    process cfg s g = if g.ea = 0 then setField s .pi g.a else (s, []) := by
  have h0 : g.eb ≠ 0 := (ac3_usedB'_false s.set g h).1
  have hd : dispatch cfg (groupCommon s g).1 g = ((groupCommon s g).1, []) :=
    ac3_dispatch_unusedB' cfg _ g (by rw [groupCommon_set]; exact h)
  show ((dispatch cfg (groupCommon s g).1 g).1, (groupCommon s g).2 ++ (dispatch cfg (groupCommon s g).1 g).2) = _
  rw [hd, List.append_nil]
  -- with block B in error `groupCommon` stops after block A
  unfold groupCommon
  simp only [h0, if_false]

/-- **C03, type-aware, two-sided.** If block B is unused in the typed sense in both groups, only block A matters, and
only if it is error-free: B, C, D and their error codes are irrelevant. (`hea` is implied by `g.ea = g'.ea`.) -/
theorem C03_process_typed (cfg : Cfg) (s : State) (g g' : Group)
    (hB : ac3_usedB' s.set g = false) (hB' : ac3_usedB' s.set g' = false)
    (hea : g.ea = 0 ↔ g'.ea = 0) (ha : g.ea = 0 → g.a = g'.a) :
    process cfg s g = process cfg s g' := by
  rw [ac3_process_unusedB' cfg s g hB, ac3_process_unusedB' cfg s g' hB']
  by_cases e : g.ea = 0
  · rw [if_pos e, if_pos (hea.mp e), ha e]
  · rw [if_neg e, if_neg (fun e' => e (hea.mpr e'))]

/-- typed version of `sameUsed`: same error codes, block A compared if error-free, and blocks B (and then C, D
through their own gates) compared iff B is used in the typed sense by EITHER group -/
def ac3_sameUsed' (set : Settings) (g g' : Group) : Bool :=
  g.ea = g'.ea && g.eb = g'.eb && g.ec = g'.ec && g.ed = g'.ed &&
  (!usedA g || g.a = g'.a) &&
  (!(ac3_usedB' set g || ac3_usedB' set g') || (g.b = g'.b &&
     (!usedC set g || g.c = g'.c) && (!usedD set g || g.d = g'.d)))

theorem ac3_sameUsed_imp (set : Settings) (g g' : Group) (h : sameUsed set g g' = true) :
    ac3_sameUsed' set g g' = true := by
  unfold sameUsed at h
  unfold ac3_sameUsed'
  simp only [Bool.and_eq_true, Bool.or_eq_true, Bool.not_eq_true', decide_eq_true_eq] at h ⊢
  refine ⟨h.1, h.2.imp (fun hB => ?_) id⟩
  -- `usedB` reads the error level of block B only, which the two groups share
  have hB' : usedB set g' = false := by rw [← hB, usedB, usedB, h.1.1.1.1.2]
  rw [ac3_usedB'_of_unused set g hB, ac3_usedB'_of_unused set g' hB']
  rfl

/-- **C03 with the typed relation:** same successor state and same event list, for ALL states -/
theorem C03_process' (cfg : Cfg) (s : State) (g g' : Group) (h : ac3_sameUsed' s.set g g' = true) :
    process cfg s g = process cfg s g' := by
  unfold ac3_sameUsed' at h
  simp only [Bool.and_eq_true, Bool.or_eq_true, Bool.not_eq_true', decide_eq_true_eq,
    Bool.or_eq_false_iff] at h
  obtain ⟨⟨⟨⟨⟨hea, heb⟩, hec⟩, hed⟩, ha⟩, hB⟩ := h
  have ha' : g.ea = 0 → g.a = g'.a := fun e => ha.resolve_left (by simp [usedA, e])
  rcases hB with hB | ⟨⟨hb, hc⟩, hd⟩
  · exact C03_process_typed cfg s g g' hB.1 hB.2 (by rw [hea]) ha'
  · exact process_congr cfg s g g' hea heb hec hed ha' hb (fun u => hc.resolve_left (by simp [u]))
      (fun u => hd.resolve_left (by simp [u]))

/-- `usedB` without `ac3_usedB'`: a type-0 group with eb = 1 while only the RT maximum admits it (psInfo = 0, rtInfo = 1) -/
example : usedB ⟨false, false, false, false, 0, 0, 1, 0, 0, 0⟩ ⟨0x1234, 0x0000, 0, 0x4142, 0, 1, 0, 0⟩ = true ∧
    ac3_usedB' ⟨false, false, false, false, 0, 0, 1, 0, 0, 0⟩ ⟨0x1234, 0x0000, 0, 0x4142, 0, 1, 0, 0⟩ = false := by
  decide

/-- non-vacuity of `C03_process_typed`: a type-0 group and a type-2 group with different
B, C, D and different error codes in B, C, D, both with block B unused in the typed sense although
`usedB` holds of the first one -/
example :
    let set : Settings := ⟨false, false, false, false, 0, 0, 1, 2, 0, 0⟩
    let g : Group := ⟨0x1234, 0x0000, 0x1111, 0x4142, 0, 1, 0, 0⟩
    let g' : Group := ⟨0x1234, 0x2015, 0x4344, 0x4546, 0, 2, 1, 2⟩
    ac3_usedB' set g = false ∧ ac3_usedB' set g' = false ∧ (g.ea = 0 ↔ g'.ea = 0) ∧ (g.ea = 0 → g.a = g'.a) ∧
    usedB set g = true ∧ g.type ≠ g'.type ∧ g.b ≠ g'.b ∧ g.c ≠ g'.c ∧ g.d ≠ g'.d ∧ g.eb ≠ g'.eb := by
  decide

/-- non-vacuity of `C03_process'`: a pair related by `ac3_sameUsed'` but not by `sameUsed` (B differs, unused in
the typed sense) and a pair with B used and equal, C unused and different -/
example :
    let set : Settings := ⟨false, false, false, false, 0, 0, 1, 2, 0, 0⟩
    ac3_sameUsed' set ⟨0x1234, 0x0000, 0x1111, 0x4142, 0, 1, 0, 0⟩ ⟨0x1234, 0xA001, 0x2222, 0x4143, 0, 1, 0, 0⟩ = true ∧
    sameUsed set ⟨0x1234, 0x0000, 0x1111, 0x4142, 0, 1, 0, 0⟩ ⟨0x1234, 0xA001, 0x2222, 0x4143, 0, 1, 0, 0⟩ = false ∧
    ac3_sameUsed' set ⟨0x1234, 0x2000, 0x1111, 0x4142, 0, 1, 3, 0⟩ ⟨0x1234, 0x2000, 0x2222, 0x4142, 0, 1, 3, 0⟩ = true := by
  decide

/-- non-interference for one delivered group: same successor state AND same event list -/
theorem C03_process (cfg : Cfg) (s : State) (g g' : Group) (h : sameUsed s.set g g' = true) :
    process cfg s g = process cfg s g' :=
  C03_process' cfg s g g' (ac3_sameUsed_imp s.set g g' h)

/-- with thresholds clamped to 'large' (2), a block flagged uncorrectable or with any code ≥ 3 is
never used -/
theorem C03_uncorrectable (set : Settings) (hs : set.Ok) (g : Group) :
    (3 ≤ g.ea → usedA g = false) ∧ (3 ≤ g.eb → usedB set g = false) ∧
    (3 ≤ g.ec → usedC set g = false) ∧ (3 ≤ g.ed → usedD set g = false) := by
  obtain ⟨h1, h2, h3, h4, h5, h6⟩ := hs
  refine ⟨?_, ?_, ?_, ?_⟩
  · intro h; simp [usedA]; omega
  · intro h
    simp only [usedB, anyInfo, Bool.or_eq_false_iff, decide_eq_false_iff_not]
    omega
  · intro h
    -- every branch of `usedC` ends in a test of `g.ec` that fails
    have e0 : decide (g.ec = 0) = false := decide_eq_false (by omega)
    have e1 : decide (g.ec ≤ set.rtData) = false := decide_eq_false (by omega)
    have e2 : decide (g.ec ≤ set.ptynData) = false := decide_eq_false (by omega)
    simp only [usedC, e0, e1, e2, Bool.and_false, Bool.false_and, ite_self]
  · intro h
    have e0 : decide (g.ed = 0) = false := decide_eq_false (by omega)
    have e1 : decide (g.ed ≤ set.psData) = false := decide_eq_false (by omega)
    have e2 : decide (g.ed ≤ set.rtData) = false := decide_eq_false (by omega)
    have e3 : decide (g.ed ≤ set.ptynData) = false := decide_eq_false (by omega)
    simp only [usedD, e0, e1, e2, e3, Bool.and_false, ite_self]

inductive OpRel (set : Settings) : Op → Op → Prop
  | refl (op : Op) : OpRel set op op
  | parse (g g' : Group) (h : sameUsed set g g' = true) : OpRel set (.parse g) (.parse g')

/-- the model state is threaded through so that "unused" is judged with the settings current at each call -/
def TraceRel (cfg : Cfg) : State → List Op → List Op → Prop
  | _, [], [] => True
  | s, op :: ops, op' :: ops' => OpRel s.set op op' ∧ TraceRel cfg (step cfg s op).1 ops ops'
  | _, _, _ => False

/-- the naive typed relation: "B unused" judged on the first group only, as `sameUsed` does -/
def ac3_sameUsedNaive (set : Settings) (g g' : Group) : Bool :=
  g.ea = g'.ea && g.eb = g'.eb && g.ec = g'.ec && g.ed = g'.ed &&
  (!usedA g || g.a = g'.a) &&
  (!ac3_usedB' set g || (g.b = g'.b &&
     (!usedC set g || g.c = g'.c) && (!usedD set g || g.d = g'.d)))

/-- Counterexample to the one-sided typed relation: PS block-B maximum 1; `g` is a 1A group with eb = 1 (B unused
in the typed sense), `g'` differs only in B and is a 0A group (B used): `g'` stores two PS characters, `g` none. -/
theorem ac3_sameUsed_onesided_false :
    let s := run ac3_cfg0 [.setCorr .ps .info 1]
    let g : Group := ⟨0x1234, 0x1000, 0, 0x4142, 0, 1, 0, 0⟩
    let g' : Group := ⟨0x1234, 0x0000, 0, 0x4142, 0, 1, 0, 0⟩
    ac3_sameUsedNaive s.set g g' = true ∧
    (process ac3_cfg0 s g).1.ps ≠ (process ac3_cfg0 s g').1.ps := by
  decide

/-- tightness of `ac3_usedB'`: for each of its text disjuncts there are a reachable state and two groups that
differ ONLY in block B (same type even: only the address bits differ) with different effect -/
theorem ac3_usedB'_tight :
    (let s := run ac3_cfg0 [.setCorr .ps .info 1]
     ac3_usedB' s.set ⟨0, 0x0000, 0, 0x4142, 1, 1, 0, 0⟩ = true ∧
     (process ac3_cfg0 s ⟨0, 0x0000, 0, 0x4142, 1, 1, 0, 0⟩).1.ps ≠
       (process ac3_cfg0 s ⟨0, 0x0001, 0, 0x4142, 1, 1, 0, 0⟩).1.ps) ∧
    (let s := run ac3_cfg0 [.setCorr .rt .info 1]
     ac3_usedB' s.set ⟨0, 0x2000, 0x4142, 0x4344, 1, 1, 0, 0⟩ = true ∧
     (process ac3_cfg0 s ⟨0, 0x2000, 0x4142, 0x4344, 1, 1, 0, 0⟩).1.rt0 ≠
       (process ac3_cfg0 s ⟨0, 0x2001, 0x4142, 0x4344, 1, 1, 0, 0⟩).1.rt0) ∧
    (let s := run ac3_cfg0 [.setCorr .ptyn .info 1]
     ac3_usedB' s.set ⟨0, 0xA000, 0x4142, 0x4344, 1, 1, 0, 0⟩ = true ∧
     (process ac3_cfg0 s ⟨0, 0xA000, 0x4142, 0x4344, 1, 1, 0, 0⟩).1.ptyn ≠
       (process ac3_cfg0 s ⟨0, 0xA001, 0x4142, 0x4344, 1, 1, 0, 0⟩).1.ptyn) := by
  decide

theorem ac3_uncorrectable' (set : Settings) (hs : set.Ok) (g : Group) (h : 3 ≤ g.eb) :
    ac3_usedB' set g = false :=
  ac3_usedB'_of_unused set g ((C03_uncorrectable set hs g).2.1 h)

/-- two calls are related if equal, or if both deliver a group (`parse`, or `parseString` of a well-formed
string) and the groups differ in unused blocks only (typed, judged with the given settings) -/
inductive ac3_OpRel' (set : Settings) : Op → Op → Prop
  | refl (op : Op) : ac3_OpRel' set op op
  | group (op op' : Op) (g g' : Group) (hg : op.group? = some g) (hg' : op'.group? = some g')
      (h : ac3_sameUsed' set g g' = true) : ac3_OpRel' set op op'

def ac3_TraceRel' (cfg : Cfg) : State → List Op → List Op → Prop
  | _, [], [] => True
  | s, op :: ops, op' :: ops' => ac3_OpRel' s.set op op' ∧ ac3_TraceRel' cfg (step cfg s op).1 ops ops'
  | _, _, _ => False

theorem C03_step' (cfg : Cfg) (s : State) (op op' : Op) (h : ac3_OpRel' s.set op op') :
    step cfg s op = step cfg s op' := by
  cases h with
  | refl => rfl
  | group _ g g' hg hg' h =>
    rw [step_group cfg s hg, step_group cfg s hg', C03_process' cfg s g g' h]

/-- **C03 over op lists (typed):** state after each call, callbacks and results are identical, now and for every
later input -/
theorem C03_trace' (cfg : Cfg) (s : State) (ops ops' : List Op) (h : ac3_TraceRel' cfg s ops ops') :
    trace cfg s ops = trace cfg s ops' :=
  match ops, ops', h with
  | [], [], _ => rfl
  | op :: ops, op' :: ops', ⟨h1, h2⟩ => by
    simp only [trace]
    rw [← C03_step' cfg s op op' h1, C03_trace' cfg _ ops ops' h2]
  | [], _ :: _, h => h.elim
  | _ :: _, [], h => h.elim

theorem OpRel.typed {set : Settings} {op op' : Op} (h : OpRel set op op') : ac3_OpRel' set op op' := by
  cases h with
  | refl => exact .refl _
  | parse g g' h => exact .group _ _ g g' rfl rfl (ac3_sameUsed_imp set g g' h)

theorem TraceRel.typed (cfg : Cfg) :
    ∀ (s : State) (ops ops' : List Op), TraceRel cfg s ops ops' → ac3_TraceRel' cfg s ops ops'
  | _, [], [], _ => trivial
  | _, _ :: _, _ :: _, ⟨h1, h2⟩ => ⟨h1.typed, TraceRel.typed cfg _ _ _ h2⟩
  | _, [], _ :: _, h => h.elim
  | _, _ :: _, [], h => h.elim

theorem C03_trace (cfg : Cfg) (s : State) (ops ops' : List Op) (h : TraceRel cfg s ops ops') :
    trace cfg s ops = trace cfg s ops' :=
  C03_trace' cfg s ops ops' (TraceRel.typed cfg s ops ops' h)

/-- non-vacuity of `C03_trace'` (and of `C03_typed`, RdsProps/C03.lean): after a history that raises the RT block-B
maximum, a type-0 group with eb = 1 may have B, C, D replaced (here: turned into a 10A group) -/
example :
    let ops : List Op := [.register .ps true, .setCorr .rt .info 1, .parse ⟨0x1234, 0x0000, 0, 0x4142, 0, 0, 0, 0⟩]
    ac3_sameUsed' (run ac3_cfg0 ops).set ⟨0x1234, 0x0001, 0x1111, 0x4344, 0, 1, 0, 0⟩
        ⟨0x1234, 0xA001, 0x2222, 0x4546, 0, 1, 0, 0⟩ = true ∧
    ac3_TraceRel' ac3_cfg0 (run ac3_cfg0 ops) [.parse ⟨0x1234, 0x0001, 0x1111, 0x4344, 0, 1, 0, 0⟩, .getters]
        [.parse ⟨0x1234, 0xA001, 0x2222, 0x4546, 0, 1, 0, 0⟩, .getters] := by
  refine ⟨by decide, ?_, ?_, trivial⟩
  · exact .group _ _ _ _ rfl rfl (by decide)
  · exact .refl _

end RDS

#print axioms RDS.C03_process
#print axioms RDS.C03_uncorrectable
#print axioms RDS.C03_trace
