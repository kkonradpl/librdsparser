import RdsSpec.Statements
import RdsProofs.Handlers
import RdsProofs.C12Calendar
/-!
# RdsProofs.C12Proofs — property C12 (clock time) on the model

`chkC12_ok`: the executable statement `chkC12` holds of every call from every state. A call reports clock times through
`group4` alone (`ctOf_process`); what it reports is `ctInit` of the four 4A fields, and `ctInit_correct` / `ctInit_reject`
(`RdsProofs.C12Calendar`) give the clauses of `chkC12`.
-/
namespace RDS
namespace C12

/-- clock-time reports among the events of a call -/
def ctOf (evs : List Event) : List CtVal := ctEvents (evs.map EvObs.ofEvent)

@[simp] theorem ctOf_nil : ctOf [] = [] := rfl

@[simp] theorem ctOf_append (a b : List Event) : ctOf (a ++ b) = ctOf a ++ ctOf b := by
  simp [ctOf, ctEvents, List.filterMap_append]

/-- the clock time an event kind reports, if it is the CT kind -/
def ctKind? : EvKind → Option CtVal
  | .ct v => some v | _ => none

theorem ctOf_eq (l : List Event) : ctOf l = l.filterMap (fun e => ctKind? e.kind) := by
  simp only [ctOf, ctEvents, List.filterMap_map]
  rfl

theorem ctOf_emit (s : State) (c : Cb) (k : EvKind) :
    ctOf (emit s c k) = if s.registered c then (ctKind? k).toList else [] := by
  unfold emit; split
  · rw [ctOf_eq]; cases k <;> rfl
  · rfl

theorem ctOf_emit_other {s : State} {c : Cb} {k : EvKind} (h : ctKind? k = none) : ctOf (emit s c k) = [] := by
  rw [ctOf_emit, h]; exact ite_self _

@[simp] theorem ctOf_setField (s : State) (f : Fld) (v : Int) : ctOf (setField s f v).2 = [] := by
  simp only [setField]; split
  · exact ctOf_emit_other (by cases f <;> rfl)
  · rfl

@[simp] theorem ctOf_addAf (s : State) (v : Nat) : ctOf (addAf s v).2 = [] := by
  unfold addAf
  simp only [apply_ite Prod.snd, apply_ite ctOf, ctOf_emit_other (rfl : ctKind? (.af _) = none), ctOf_nil, ite_self]

theorem ctOf_groupCommon (s : State) (g : Group) : ctOf (groupCommon s g).2 = [] := by
  unfold groupCommon
  simp only [apply_ite Prod.snd, apply_ite ctOf, ctOf_append, ctOf_setField, ctOf_nil, List.append_nil, ite_self]

theorem ctOf_group0 (cfg : Cfg) (s : State) (g : Group) : ctOf (group0 cfg s g).2 = [] := by
  unfold group0
  simp only [apply_ite Prod.snd, apply_ite ctOf, ctOf_append, ctOf_setField, ctOf_addAf,
    ctOf_emit_other (rfl : ctKind? .ps = none), ctOf_nil, List.append_nil, ite_self]

theorem ctOf_group1 (cfg : Cfg) (s : State) (g : Group) : ctOf (group1 cfg s g).2 = [] := by
  unfold group1
  simp only [apply_ite Prod.snd, apply_ite ctOf, ctOf_append, ctOf_setField, ctOf_nil, List.append_nil, ite_self]

theorem ctOf_group2 (cfg : Cfg) (s : State) (g : Group) : ctOf (group2 cfg s g).2 = [] := by
  unfold group2
  simp only [apply_ite Prod.snd, apply_ite ctOf, ctOf_emit_other (rfl : ctKind? (.rt _) = none), ctOf_nil, ite_self]

theorem ctOf_group10 (cfg : Cfg) (s : State) (g : Group) : ctOf (group10 cfg s g).2 = [] := by
  unfold group10
  simp only [apply_ite Prod.snd, apply_ite ctOf, ctOf_emit_other (rfl : ctKind? .ptyn = none), ctOf_nil, ite_self]

theorem ctOf_group4 (s : State) (g : Group) :
    ctOf (group4 s g).2 =
      if g4ok g && s.registered .ct then
        (ctInit (ctFields g).1 (ctFields g).2.1 (ctFields g).2.2.1 (ctFields g).2.2.2).toList
      else [] := by
  rw [group4_snd]
  cases g4ok g
  · rfl
  · cases ctInit (ctFields g).1 (ctFields g).2.1 (ctFields g).2.2.1 (ctFields g).2.2.2 with
    | none => cases s.registered .ct <;> rfl
    | some v => exact ctOf_emit s .ct (.ct v)

theorem ctOf_process (cfg : Cfg) (s : State) (g : Group) :
    ctOf (process cfg s g).2 =
      if g.type = 4 ∧ (g4ok g && s.registered .ct) = true then
        (ctInit (ctFields g).1 (ctFields g).2.1 (ctFields g).2.2.1 (ctFields g).2.2.2).toList
      else [] := by
  -- `groupCommon` reports no clock time and leaves the registrations alone; of the handlers only `group4` reports one
  have hreg : (groupCommon s g).1.registered .ct = s.registered .ct := by
    unfold State.registered; rw [(congrArg State.cbs (groupCommon_noBuf s g) :)]
  unfold process
  simp only [ctOf_append, ctOf_groupCommon, List.nil_append]
  refine dispatch_cases (P := fun r => ctOf r.2 = _) cfg _ g ?_ ?_ ?_ ?_ ?_ ?_
  · exact fun _ => by rw [if_neg (by omega)]; exact ctOf_group0 ..
  · exact fun _ => by rw [if_neg (by omega)]; exact ctOf_group1 ..
  · exact fun _ => by rw [if_neg (by omega)]; exact ctOf_group2 ..
  · exact fun h4 => by rw [ctOf_group4, hreg]; simp only [h4, true_and]
  · exact fun _ => by rw [if_neg (by omega)]; exact ctOf_group10 ..
  · exact fun _ _ _ h4 _ => by rw [if_neg (fun h => h4 h.1)]; rfl

/-- the body of `chkC12` as a function of (callback registered, delivered group, clock-time reports) -/
def body (reg : Bool) (og : Option Group) (cts : List CtVal) : Bool :=
  if !reg then cts.isEmpty else
  match og with
  | none => cts.isEmpty
  | some g =>
    let f := ctFields g
    let mjd := f.1; let h := f.2.1; let mi := f.2.2.1; let off := f.2.2.2
    let expected := g.type = 4 && !g.versionB && g.eb = 0 && g.ec = 0 && g.ed = 0 && h < 24 && mi < 60
    if !expected then cts.isEmpty else
    match cts with
    | [v] =>
      validDate v.year v.month v.day && 0 ≤ v.hour && v.hour < 24 && 0 ≤ v.minute && v.minute < 60 &&
      v.offsetMin == 30 * off &&
      (mjdOf v.year v.month v.day) * 1440 + v.hour * 60 + v.minute
        == (mjd : Int) * 1440 + (h : Int) * 60 + mi + 30 * off
    | _ => false

theorem chkC12_eq_body (m : Mon) (r : StepRec) :
    chkC12 m r = body (m.cbs.getD Cb.ct.idx false) r.op.group? (ctEvents r.evs) := rfl

theorem body_nil (reg : Bool) : body reg none [] = true := by cases reg <;> rfl

theorem ctFields_off (g : Group) : -31 ≤ (ctFields g).2.2.2 ∧ (ctFields g).2.2.2 ≤ 31 := by
  simp only [ctFields]; split <;> omega

theorem body_process (cfg : Cfg) (s : State) (g : Group) :
    body (s.registered .ct) (some g) (ctOf (process cfg s g).2) = true := by
  rw [ctOf_process]
  unfold body
  cases s.registered .ct
  · simp
  · -- `expected` is the gate of `group4` and the range test of `ctInit`
    have hexp : (decide (g.type = 4) && !g.versionB && decide (g.eb = 0) && decide (g.ec = 0) && decide (g.ed = 0)) =
        (decide (g.type = 4) && g4ok g) := by simp only [g4ok, Bool.and_assoc]
    simp only [Bool.and_true, Bool.not_true, Bool.false_eq_true, if_false, hexp]
    by_cases hg : g.type = 4 ∧ g4ok g = true
    · rw [if_pos hg, decide_eq_true hg.1, hg.2]
      by_cases hhm : (ctFields g).2.1 < 24 ∧ (ctFields g).2.2.1 < 60
      · obtain ⟨v, hv', hvalid, hh0, hh1, hm0, hm1, hoff, hsum⟩ :=
          ctInit_correct (ctFields g).1 (ctFields g).2.1 (ctFields g).2.2.1 (ctFields g).2.2.2
            hhm.1 hhm.2 (ctFields_off g)
        rw [hv']
        simp [Option.toList, hhm.1, hhm.2, hvalid, hh0, hh1, hm0, hm1, hoff, hsum]
      · rw [ctInit_reject _ _ _ _ hhm, Bool.true_and, Bool.true_and, ← Bool.decide_and, decide_eq_false hhm]; rfl
    · rw [if_neg hg, show (decide (g.type = 4) && g4ok g) = false by simpa using hg]; rfl
end C12

/-- every call from every state; `hc`: the monitor knows the callback table -/
theorem chkC12_ok (cfg : Cfg) (m : Mon) (s : State) (op : Op) (hc : m.cbs = s.cbs) :
    chkC12 m (recOf cfg s op) = true := by
  rw [C12.chkC12_eq_body]
  have hreg : m.cbs.getD Cb.ct.idx false = s.registered .ct := by rw [hc]; rfl
  rw [hreg]
  show C12.body _ op.group? (C12.ctOf (step cfg s op).2.1) = true
  cases hg : op.group? with
  | some g => rw [step_group cfg s hg]; exact C12.body_process cfg s g
  | none => rw [step_nogroup_evs cfg s hg]; exact C12.body_nil _
end RDS

#print axioms RDS.civilFromDays_correct
#print axioms RDS.ctInit_correct
#print axioms RDS.ctInit_reject
#print axioms RDS.chkC12_ok
