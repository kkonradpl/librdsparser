import RdsModel
import RdsSpec.Monitors
/-!
# RdsProofs.CellsAddressed — the table `addressed` as one or two 16-bit blocks

Every fact about `addressed g` (indices in range, cells pairwise distinct, what `find?` returns) is a fact about
a list of the shape `blockCells t p w ex ++ …` (`addressed_blocks`); the arithmetic on block B is done once, in
`C05_positions`.
-/
namespace RDS

/-- capacity of text buffer `t` (0 = PS, 1 = RT A, 2 = RT B, 3 = PTYN) -/
def capOf : Nat → Nat | 0 => capPs | 1 => capRt | 2 => capRt | _ => capPtyn

/-- the two cells a 16-bit block `w` with error level `ex` presents to text `t` at position `p` -/
def blockCells (t p w ex : Nat) : List (Nat × Nat × Nat × Nat) :=
  [(t, p, w / 256 % 256, ex), (t, p + 1, w % 256, ex)]

theorem capOf_rt (f : Nat) (hf : f < 2) : capOf (1 + f) = capRt := by
  match f, hf with
  | 0, _ | 1, _ => rfl

theorem addressed_eq (g : Group) :
    addressed g =
      if g.type = 0 then blockCells 0 (2 * (g.b % 4)) g.d g.ed
      else if g.type = 2 then
        if g.versionB then blockCells (1 + g.b / 16 % 2) (2 * (g.b % 16)) g.d g.ed
        else blockCells (1 + g.b / 16 % 2) (4 * (g.b % 16)) g.c g.ec ++
          blockCells (1 + g.b / 16 % 2) (4 * (g.b % 16) + 2) g.d g.ed
      else if g.type = 10 && !g.versionB then
        blockCells 3 (4 * (g.b % 2)) g.c g.ec ++ blockCells 3 (4 * (g.b % 2) + 2) g.d g.ed
      else [] := rfl

section
variable (g : Group)
theorem addressed_type0 (h0 : g.type = 0) : addressed g = blockCells 0 (2 * (g.b % 4)) g.d g.ed := by
  rw [addressed_eq, if_pos h0]
theorem addressed_type2B (h2 : g.type = 2) (hv : g.versionB = true) :
    addressed g = blockCells (1 + g.b / 16 % 2) (2 * (g.b % 16)) g.d g.ed := by
  rw [addressed_eq, if_neg (by omega), if_pos h2, if_pos hv]
theorem addressed_type2A (h2 : g.type = 2) (hv : g.versionB = false) :
    addressed g = blockCells (1 + g.b / 16 % 2) (4 * (g.b % 16)) g.c g.ec ++
      blockCells (1 + g.b / 16 % 2) (4 * (g.b % 16) + 2) g.d g.ed := by
  rw [addressed_eq, if_neg (by omega), if_pos h2, if_neg (by simp [hv])]
theorem addressed_type10A (h10 : g.type = 10) (hv : g.versionB = false) :
    addressed g = blockCells 3 (4 * (g.b % 2)) g.c g.ec ++ blockCells 3 (4 * (g.b % 2) + 2) g.d g.ed := by
  rw [addressed_eq, if_neg (by omega), if_neg (by omega), if_pos (by simp [h10, hv])]
theorem addressed_other (h0 : g.type ≠ 0) (h2 : g.type ≠ 2) (h10 : g.type = 10 → g.versionB = true) :
    addressed g = [] := by
  rw [addressed_eq, if_neg h0, if_neg h2, if_neg]
  intro h
  simp only [Bool.and_eq_true, decide_eq_true_eq, Bool.not_eq_true'] at h
  rw [h10 h.1] at h
  exact absurd h.2 (by decide)
end

/-- the positions the handlers pass are in range -/
theorem C05_positions (b : Nat) :
    2 * (b % 4) + 1 < capPs ∧ 4 * (b % 16) + 3 < capRt ∧ 2 * (b % 16) + 1 < capRt ∧ 4 * (b % 2) + 3 < capPtyn := by
  simp only [capPs, capRt, capPtyn]
  omega

/-- a group addresses nothing, one block or two adjacent blocks of ONE text, inside its capacity -/
theorem addressed_blocks (g : Group) :
    addressed g = [] ∨
    (∃ t p w ex, t ≤ 3 ∧ p + 1 < capOf t ∧ addressed g = blockCells t p w ex) ∨
    (∃ t p w ex w' ex', t ≤ 3 ∧ p + 3 < capOf t ∧
      addressed g = blockCells t p w ex ++ blockCells t (p + 2) w' ex') := by
  have hf : g.b / 16 % 2 < 2 := Nat.mod_lt _ (by decide)
  have ht : 1 + g.b / 16 % 2 ≤ 3 := by omega
  obtain ⟨hps, hrtA, hrtB, hptyn⟩ := C05_positions g.b
  rw [← capOf_rt _ hf] at hrtA hrtB
  by_cases h0 : g.type = 0
  · exact .inr (.inl ⟨0, _, _, _, by decide, hps, addressed_type0 g h0⟩)
  by_cases h2 : g.type = 2
  · cases hv : g.versionB
    · exact .inr (.inr ⟨_, _, _, _, _, _, ht, hrtA, addressed_type2A g h2 hv⟩)
    · exact .inr (.inl ⟨_, _, _, _, ht, hrtB, addressed_type2B g h2 hv⟩)
  cases hv : g.versionB
  · by_cases h10 : g.type = 10
    · exact .inr (.inr ⟨3, _, _, _, _, _, by decide, hptyn, addressed_type10A g h10 hv⟩)
    · exact .inl (addressed_other g h0 h2 (fun h => absurd h h10))
  · exact .inl (addressed_other g h0 h2 (fun _ => hv))

theorem filter_blockCells_same (t p w ex : Nat) :
    (blockCells t p w ex).filter (fun a => a.1 = t) = blockCells t p w ex := by
  simp [blockCells]
theorem filter_blockCells_ne {t t' p w ex : Nat} (h : t ≠ t') :
    (blockCells t p w ex).filter (fun a => a.1 = t') = [] := by
  simp [blockCells, h]

theorem mem_blockCells {a : Nat × Nat × Nat × Nat} {t p w ex : Nat} (h : a ∈ blockCells t p w ex) :
    a.1 = t ∧ (a.2.1 = p ∨ a.2.1 = p + 1) := by
  simp only [blockCells, List.mem_cons, List.not_mem_nil, or_false] at h
  rcases h with rfl | rfl
  · exact ⟨rfl, .inl rfl⟩
  · exact ⟨rfl, .inr rfl⟩

theorem addressed_type2_text (g : Group) (h2 : g.type = 2) : ∀ a ∈ addressed g, a.1 = 1 + g.b / 16 % 2 := by
  intro a ha
  cases hv : g.versionB
  · rw [addressed_type2A g h2 hv, List.mem_append] at ha
    rcases ha with ha | ha <;> exact (mem_blockCells ha).1
  · rw [addressed_type2B g h2 hv] at ha
    exact (mem_blockCells ha).1

/-- every cell index a group addresses is inside the capacity of the addressed text, whatever block B contains -/
theorem C05_addressed_in_range (g : Group) : ∀ a ∈ addressed g, a.1 ≤ 3 ∧ a.2.1 < capOf a.1 := by
  intro a ha
  rcases addressed_blocks g with h | ⟨t, p, w, ex, ht, hp, h⟩ | ⟨t, p, w, ex, w', ex', ht, hp, h⟩ <;> rw [h] at ha
  · cases ha
  · obtain ⟨h1, h2⟩ := mem_blockCells ha
    rw [h1]; omega
  · rw [List.mem_append] at ha
    rcases ha with ha | ha <;> obtain ⟨h1, h2⟩ := mem_blockCells ha <;> rw [h1] <;> omega

/-- the cells of one text in `addressed g` have pairwise distinct indices, so looking a listed cell up finds it -/
theorem addressed_find (g : Group) (a : Nat × Nat × Nat × Nat) (h : a ∈ addressed g) :
    ((addressed g).filter (fun x => x.1 = a.1)).find? (fun x => x.2.1 = a.2.1) = some a := by
  rcases addressed_blocks g with e | ⟨t, p, w, ex, _, _, e⟩ | ⟨t, p, w, ex, w', ex', _, _, e⟩ <;> rw [e] at h ⊢
  · cases h
  · simp only [blockCells, List.mem_cons, List.not_mem_nil, or_false] at h
    rcases h with rfl | rfl <;> simp [blockCells, List.filter, List.find?]
  · simp only [blockCells, List.cons_append, List.nil_append, List.mem_cons, List.not_mem_nil, or_false] at h
    rcases h with rfl | rfl | rfl | rfl <;> simp [blockCells, List.filter, List.find?, Nat.add_assoc]

#print axioms C05_positions
#print axioms C05_addressed_in_range

end RDS
