import RdsProofs.Reentrant
import RdsProofs.C15Proofs
/-!
# Nested calls from handlers that only touch registrations and user data

The nested-call form of C15's "who listens does not influence what is decoded" (`processH_erase`). Two states with the
same erasure are one state with two observer tables, so the commutation facts of C15 (`c15_Comm`, `c15_ObsInv`) say that
every piece of the decoder respects erasure; a callback of such a handler does so by assumption; `Leaves.process` does
the rest.
-/
namespace RDS

/-- a handler that touches nothing but the registration table and the user data (the events it returns, those of API
calls it makes itself, are not constrained) -/
def Handler.ObserverOnly (h : Handler) : Prop := ∀ e s, erase (h e s).1 = erase s

theorem emitH_erase (h : Handler) (ho : h.ObserverOnly) (s : State) (c : Cb) (k : EvKind) :
    erase (emitH h s c k).1 = erase s := by
  unfold emitH; split
  · exact ho _ _
  · rfl

theorem erase_with_congr {s t : State} (hst : erase s = erase t) (f : State → State)
    (hf : ∀ x : State, erase (f x) = erase (f (erase x))) : erase (f s) = erase (f t) := by
  rw [hf s, hf t, hst]

theorem erase_setPs_congr {s t : State} (hst : erase s = erase t) (p : Text) :
    erase { s with ps := p } = erase { t with ps := p } :=
  c15_Comm.erase_congr (f := fun s => { s with ps := p }) (fun _ _ _ => rfl) hst

theorem updH_erase {h : Handler} (ho : h.ObserverOnly) {upd : State → State} (hupd : c15_Comm upd) (fire : Bool)
    (cb : Cb) (k : EvKind) {s t : State} (hst : erase s = erase t) :
    erase (if fire then emitH h (upd s) cb k else (upd s, [])).1 = erase (upd t) := by
  cases fire
  · exact hupd.erase_congr hst
  · exact (emitH_erase h ho _ _ _).trans (hupd.erase_congr hst)

theorem setFieldH_erase (h : Handler) (ho : h.ObserverOnly) {s t : State} (hst : erase s = erase t) (f : Fld) (v : Int) :
    erase (setFieldH h s f v).1 = erase (setField t f v).1 :=
  updH_erase ho (upd := fun s => (setField s f v).1) (fun _ _ _ => rfl) _ _ _ hst

theorem addAfH_erase (h : Handler) (ho : h.ObserverOnly) {s t : State} (hst : erase s = erase t) (v : Nat) :
    erase (addAfH h s v).1 = erase (addAf t v).1 := by
  have e1 : afGet s.used.af v = afGet t.used.af v :=
    c15_ObsInv.erase_congr (v := fun s => afGet s.used.af v) (fun _ _ _ => rfl) hst
  have e2 : (s.set.ext && !afGet s.temp.af v) = (t.set.ext && !afGet t.temp.af v) :=
    c15_ObsInv.erase_congr (v := fun s => s.set.ext && !afGet s.temp.af v) (fun _ _ _ => rfl) hst
  unfold addAfH
  by_cases h1 : afGet t.used.af v = true
  · rw [addAf_known t v h1, if_pos (e1 ▸ h1)]; exact hst
  · by_cases h2 : (t.set.ext && !afGet t.temp.af v) = true
    · rw [addAf_candidate t v h1 h2, if_neg (e1 ▸ h1), if_pos (e2 ▸ h2)]
      exact c15_Comm.erase_congr (f := fun s => { s with temp := { s.temp with af := (afSet s.temp.af v).1 } })
        (fun _ _ _ => rfl) hst
    · rw [addAf_listed t v h1 h2, if_neg (e1 ▸ h1), if_neg (e2 ▸ h2)]
      exact updH_erase ho (upd := fun s => { s with used := { s.used with af := (afSet s.used.af v).1 } })
        (fun _ _ _ => rfl) _ _ _ hst

theorem group10H_erase (cfg : Cfg) (h : Handler) (ho : h.ObserverOnly) {s t : State} (hst : erase s = erase t) (g : Group) :
    erase (group10H cfg h s g).1 = erase (group10 cfg t g).1 := by
  rw [group10_eq]
  unfold group10H
  cases g.versionB
  · exact updH_erase ho (upd := fun s => { s with ptyn := (g10u cfg s g).2.1 }) (fun _ _ _ => rfl) _ _ _ hst
  · exact hst

theorem group4H_erase (h : Handler) (ho : h.ObserverOnly) (s : State) (g : Group) :
    erase (group4H h s g).1 = erase s := by
  unfold group4H
  split
  · simp only []
    split
    · exact emitH_erase h ho _ _ _
    · rfl
  · rfl

theorem erase_leaves (cfg : Cfg) (h : Handler) (ho : h.ObserverOnly) (g : Group) :
    Leaves (fun s t => erase s = erase t) (fun _ _ => True) (piecesH cfg h g) (pieces cfg g) g where
  ev := .true
  sf := fun f v _ _ _ hst => ⟨setFieldH_erase h ho hst f v, trivial⟩
  af := fun v _ _ _ hst => ⟨addAfH_erase h ho hst v, trivial⟩
  cty := fun _ _ s t hst => ⟨by
    show erase (setFieldH h s .country (eccLookup cfg s.used.pi _)).1 = erase (setField t .country (eccLookup cfg t.used.pi _)).1
    rw [c15_ObsInv.erase_congr (v := fun s => s.used.pi) (fun _ _ _ => rfl) hst]
    exact setFieldH_erase h ho hst _ _, trivial⟩
  ps := fun _ _ _ hst => ⟨updH_erase ho (upd := fun s => { s with ps := (g0u cfg s g).1 }) (fun _ _ _ => rfl) _ _ _ hst, trivial⟩
  g2 := fun _ =>
    -- the two sides unfold to this shape: `group2H_eq`, `group2_eq`
    Sim.g2cut .true g (fun s2 clr => g2tailH cfg h s2 g clr) (fun s2 clr => g2tail cfg s2 g clr)
      (fun _ _ hst => c15_ObsInv.erase_congr (v := State.lastRt) (fun _ _ _ => rfl) hst)
      (fun _ _ hst => c15_ObsInv.erase_congr (v := fun s => getAvailable (s.rt (g.b / 16 % 2))) (fun _ _ _ => rfl) hst)
      (fun _ _ hst => c15_Comm.erase_congr (f := fun s => s.setRt (g.b / 16 % 2) (s.rt (g.b / 16 % 2)).cleared)
        (fun s c u => c15_withObs_setRt s c u _ _) hst)
      (fun _ _ v hst => c15_Comm.erase_congr (f := fun s => { s with lastRt := v }) (fun _ _ _ => rfl) hst)
      fun clr _ _ hst => ⟨updH_erase ho (upd := fun s2 => s2.setRt (g.b / 16 % 2) (g2u cfg s2 g).2.1)
        (fun s c u => c15_withObs_setRt s c u _ _) _ _ _ hst, trivial⟩
  g4 := fun _ s t hst => ⟨by
    show erase (group4H h s g).1 = erase (group4 t g).1
    rw [group4H_erase h ho, group4_fst]; exact hst, trivial⟩
  g10 := fun _ _ _ hst => ⟨group10H_erase cfg h ho hst g, trivial⟩

/-- **Nested-call form of C15.** A callback that, from inside the call, changes nothing but the registration table and the
user data (whatever it registers, removes or sets) does not influence what is decoded: the state after the call, up to the
observer table, is the one of the plain model. -/
theorem processH_erase (cfg : Cfg) (h : Handler) (ho : h.ObserverOnly) (s : State) (g : Group) :
    erase (processH cfg h s g).1 = erase (process cfg s g).1 := by
  rw [processH_eq_pieces, process_eq_pieces]
  exact ((erase_leaves cfg h ho g).process s s rfl).1

theorem stepH_erase (cfg : Cfg) (h : Handler) (ho : h.ObserverOnly) (s : State) (op : Op) :
    erase (stepH cfg h s op).1 = erase (step cfg s op).1 := by
  cases hg : op.group? with
  | none => rw [stepH_nogroup cfg h s hg]
  | some g => rw [stepH_group cfg h s hg, step_group cfg s hg]; exact processH_erase cfg h ho s g

/-- non-vacuity: the harness's modes `ri 1000..4999`, "callback j registers callback k" and "callback j unregisters k /
changes the user data", are observer-only handlers -/
theorem handlerOfMode_observerOnly (cfg : Cfg) (m : Nat) (h1 : 1000 ≤ m) (h2 : m < 5000) (h : Handler)
    (hm : handlerOfMode cfg m = some h) : h.ObserverOnly := by
  unfold handlerOfMode at hm
  rw [if_neg (by omega : ¬ m = 0), if_neg (by omega : ¬ 7000 ≤ m), if_neg (by omega : ¬ 5000 ≤ m)] at hm
  -- either branch: the handler leaves `s` or replaces its registration table and/or its user data
  have ite_erase : ∀ (p : Prop) [Decidable p] (a b s : State), erase a = erase s → erase b = erase s →
      erase (if p then a else b) = erase s := by
    intro p _ a b s ha hb; split
    · exact ha
    · exact hb
  by_cases h3 : 3000 ≤ m
  · rw [if_pos h3] at hm
    injection hm with hm; subst hm
    intro e s
    exact ite_erase _ _ _ _ rfl rfl
  · rw [if_neg h3, if_pos h1] at hm
    injection hm with hm; subst hm
    intro e s
    refine ite_erase _ _ _ _ ?_ rfl
    have hs1 := ite_erase (m % 2 = 1) { s with cbs := s.cbs.set ((m - 1000) % 100 / 4 % 12) false } s s rfl rfl
    exact ite_erase _ _ _ _ (Eq.trans rfl hs1) hs1

end RDS
