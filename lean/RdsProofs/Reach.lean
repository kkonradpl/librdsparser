import RdsProofs.LinkProofs
import RdsProofs.WFProofs
/-!
# RdsProofs.Reach — both invariants hold in every reachable state

Every history theorem is an invariant of the reachable states plus a one-step lemma `chk…_ok` that asks for the part
of it that it reads. The link (`linkL_run`) and the capacities (`lens_run`) hold whatever the tables; only `WF` needs
`EccOk`, for the range of the country (C11); C03, C13, C16 take settings, terminators and cell contents from `WF`.

For a new property the kit is: the invariants along a history `linkL_run`, `lens_run`, `setOk_run` (any tables) and
`wf_run`; a call by its kind (`Op.kind_cases` with `step_group`, `step_quiet`, `Mon.step_group`, `Mon.step_quiet`);
`process` piece by piece (`process_ind` for a predicate on states, `Leaves.sim` and `Sim.step` for a relation between
two runs); induction over a history from its end (`List.snoc_ind` with `run_snoc`, `monAfter_snoc`).
-/
namespace RDS

theorem reach (tb : Tabs) (h : EccOk tb) (ops : List Op) :
    Link (monAfter tb.cfg ops) (run tb.cfg ops) ∧ WF tb (run tb.cfg ops) :=
  ⟨(linkL_run tb.cfg ops).link, wf_run tb h ops⟩

theorem monAfter_snoc (cfg : Cfg) (ops : List Op) (op : Op) :
    monAfter cfg (ops ++ [op]) = (monAfter cfg ops).step cfg op := by
  simp [monAfter, List.foldl_append]

end RDS
