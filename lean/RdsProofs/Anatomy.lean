import RdsProofs.Handlers
/-!
# RdsProofs.Anatomy — how the handlers are put together

`process` and its nested-call form `processH` are the same arrangement (`Pieces.process`) of seven pieces that touch
the state or invoke a callback: a buffered update, an AF code, the country lookup, the PS update followed by at most one
notification, and the handlers of groups 2, 4 and 10 (`process_eq_pieces`, `processH_eq_pieces`). What is shown of
every piece then holds of the whole, by a lemma that looks at the arrangement only (Sim.lean). `SfOcc`, `AfOcc` say
which buffered updates occur for a group.
-/
namespace RDS

def seq {σ : Type} (h1 h2 : σ → σ × List Event) (s : σ) : σ × List Event :=
  ((h2 (h1 s).1).1, (h1 s).2 ++ (h2 (h1 s).1).2)

def psUpd (cfg : Cfg) (g : Group) (s : State) : State × List Event :=
  ({ s with ps := (g0u cfg s g).1 }, if (g0u cfg s g).2 then emit { s with ps := (g0u cfg s g).1 } .ps .ps else [])

def psUpdH (cfg : Cfg) (h : Handler) (g : Group) (s : State) : State × List Event :=
  if (g0u cfg s g).2 then emitH h { s with ps := (g0u cfg s g).1 } .ps .ps else ({ s with ps := (g0u cfg s g).1 }, [])

def g2tailH (cfg : Cfg) (h : Handler) (s2 : State) (g : Group) (clr : Bool) : State × List Event :=
  if clr || (g2u cfg s2 g).1.2 || (g2u cfg s2 g).2.2 then
    emitH h (s2.setRt (g.b / 16 % 2) (g2u cfg s2 g).2.1) .rt (.rt (g.b / 16 % 2))
  else (s2.setRt (g.b / 16 % 2) (g2u cfg s2 g).2.1, [])

theorem group2H_eq (cfg : Cfg) (h : Handler) (s : State) (g : Group) :
    group2H cfg h s g =
      if g.eb != 0 && ((g.b / 16 % 2 : Nat) : Int) != (g2s2 s g).lastRt && (g2s2 s g).lastRt != -1
      then (g2s2 s g, []) else g2tailH cfg h (g2s2 s g) g (g2clr s g) := rfl

/-- The state type is a parameter: a monitor that follows the decoder is an arrangement of pieces as well
(`monPieces`). -/
structure Pieces (σ : Type) where
  sf : Fld → Int → σ → σ × List Event
  af : Nat → σ → σ × List Event
  cty : σ → σ × List Event
  ps : σ → σ × List Event
  g2 : σ → σ × List Event
  g4 : σ → σ × List Event
  g10 : σ → σ × List Event

variable {σ : Type}

def Pieces.common (p : Pieces σ) (g : Group) : σ → σ × List Event :=
  seq (fun s => if g.ea = 0 then p.sf .pi g.a s else (s, []))
    (fun s => if g.eb = 0 then seq (p.sf .pty (g.b / 32 % 32 : Nat)) (p.sf .tp (g.b / 1024 % 2 : Nat)) s else (s, []))

def Pieces.g0 (p : Pieces σ) (g : Group) : σ → σ × List Event :=
  seq (seq
    (fun s => if g.eb = 0 then seq (p.sf .ta (g.b / 16 % 2 : Nat)) (p.sf .ms (g.b / 8 % 2 : Nat)) s else (s, []))
    p.ps)
    (fun s => if (!g.versionB && g.eb = 0 && g.ec = 0 && g.c / 256 % 256 != 250) then
        seq (p.af (g.c / 256 % 256)) (p.af (g.c % 256)) s
      else (s, []))

def Pieces.g1 (p : Pieces σ) (g : Group) : σ → σ × List Event :=
  fun s => if (!g.versionB && g.eb = 0 && g.ec = 0 && g.c / 4096 % 8 = 0) then
      seq (p.sf .ecc (g.c % 256 : Nat)) p.cty s
    else (s, [])

def Pieces.dispatch (p : Pieces σ) (g : Group) : σ → σ × List Event :=
  fun s => if g.type = 0 then p.g0 g s
    else if g.type = 1 then p.g1 g s
    else if g.type = 2 then p.g2 s
    else if g.type = 4 then p.g4 s
    else if g.type = 10 then p.g10 s
    else (s, [])

def Pieces.process (p : Pieces σ) (g : Group) : σ → σ × List Event := seq (p.common g) (p.dispatch g)

/-- the calls `p.sf f v` that occur in `Pieces.process p g` -/
inductive SfOcc (g : Group) : Fld → Int → Prop
  | pi : g.ea = 0 → SfOcc g .pi g.a
  | pty : g.eb = 0 → SfOcc g .pty (g.b / 32 % 32 : Nat)
  | tp : g.eb = 0 → SfOcc g .tp (g.b / 1024 % 2 : Nat)
  | ta : g.type = 0 → g.eb = 0 → SfOcc g .ta (g.b / 16 % 2 : Nat)
  | ms : g.type = 0 → g.eb = 0 → SfOcc g .ms (g.b / 8 % 2 : Nat)
  | ecc : g.type = 1 → (!g.versionB && g.eb = 0 && g.ec = 0 && g.c / 4096 % 8 = 0) = true →
      SfOcc g .ecc (g.c % 256 : Nat)

theorem SfOcc.ne_country {g : Group} {f : Fld} {v : Int} (h : SfOcc g f v) : f ≠ .country := by
  cases h <;> nofun

/-- the calls `p.af v` that occur in `Pieces.process p g` -/
inductive AfOcc (g : Group) : Nat → Prop
  | hi : g.type = 0 → (!g.versionB && g.eb = 0 && g.ec = 0 && g.c / 256 % 256 != 250) = true → AfOcc g (g.c / 256 % 256)
  | lo : g.type = 0 → (!g.versionB && g.eb = 0 && g.ec = 0 && g.c / 256 % 256 != 250) = true → AfOcc g (g.c % 256)

def pieces (cfg : Cfg) (g : Group) : Pieces State where
  sf := fun f v s => setField s f v
  af := fun v s => addAf s v
  cty := fun s => setField s .country (eccLookup cfg s.used.pi (g.c % 256 : Nat))
  ps := psUpd cfg g
  g2 := fun s => group2 cfg s g
  g4 := fun s => group4 s g
  g10 := fun s => group10 cfg s g

def piecesH (cfg : Cfg) (h : Handler) (g : Group) : Pieces State where
  sf := fun f v s => setFieldH h s f v
  af := fun v s => addAfH h s v
  cty := fun s => setFieldH h s .country (eccLookup cfg s.used.pi (g.c % 256 : Nat))
  ps := psUpdH cfg h g
  g2 := fun s => group2H cfg h s g
  g4 := fun s => group4H h s g
  g10 := fun s => group10H cfg h s g

theorem groupCommon_eq_pieces (cfg : Cfg) (s : State) (g : Group) : groupCommon s g = (pieces cfg g).common g s := by
  unfold groupCommon Pieces.common pieces seq
  by_cases hb : g.eb = 0
  · simp only [hb, if_true, List.append_assoc]
  · simp only [hb, if_false, List.append_nil]

theorem group0_eq_pieces (cfg : Cfg) (s : State) (g : Group) : group0 cfg s g = (pieces cfg g).g0 g s := by
  unfold group0 Pieces.g0 pieces psUpd seq
  by_cases hc : (!g.versionB && g.eb = 0 && g.ec = 0 && g.c / 256 % 256 != 250) = true
  · simp only [hc, if_true, g0u, List.append_assoc]
  · simp only [hc, if_false, g0u, List.append_nil, Bool.false_eq_true]

theorem dispatch_eq_pieces (cfg : Cfg) (s : State) (g : Group) : dispatch cfg s g = (pieces cfg g).dispatch g s := by
  unfold dispatch
  rw [group0_eq_pieces]
  rfl

theorem process_eq_pieces (cfg : Cfg) (s : State) (g : Group) : process cfg s g = (pieces cfg g).process g s := by
  show ((dispatch cfg (groupCommon s g).1 g).1, (groupCommon s g).2 ++ (dispatch cfg (groupCommon s g).1 g).2) = _
  rw [groupCommon_eq_pieces cfg, dispatch_eq_pieces]
  rfl

theorem processH_eq_pieces (cfg : Cfg) (h : Handler) (s : State) (g : Group) :
    processH cfg h s g = (piecesH cfg h g).process g s := by
  have e0 : group0H cfg h = fun s g => (piecesH cfg h g).g0 g s := by
    funext s g
    unfold group0H Pieces.g0 piecesH psUpdH seq
    by_cases hc : (!g.versionB && g.eb = 0 && g.ec = 0 && g.c / 256 % 256 != 250) = true
    · simp only [hc, if_true, g0u, List.append_assoc]
    · simp only [hc, if_false, g0u, List.append_nil, Bool.false_eq_true]
  have ec : groupCommonH h = fun s g => (piecesH cfg h g).common g s := by
    funext s g
    unfold groupCommonH Pieces.common piecesH seq
    by_cases hb : g.eb = 0
    · simp only [hb, if_true, List.append_assoc]
    · simp only [hb, if_false, List.append_nil]
  unfold processH dispatchH
  rw [e0, ec]
  rfl

end RDS
