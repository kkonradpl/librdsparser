import RdsProofs.WordedProofs
import RdsProofs.CellsProofs
/-!
# RdsProofs.C07History — the clauses of C07 (progressive correction) over whole histories

C07: *With progressive correction enabled for a text, the error level of each of its cells never increases and a
cell's character is replaced only by a reception whose level is not worse than the cell's current level, until the
text is reset (clear, or an RT A/B switch). Hence once a cell holds an error-free character only another error-free
reception can change it, and a string whose every cell is eventually received error-free converges to that string
regardless of interleaved corrected receptions.*

Buffers are numbered as by `addressed` and `Obs.text`: 0 = PS, 1 = RT A, 2 = RT B, 3 = PTYN. Clauses (a)–(c) are
read off `ac07_step` (`step_cell` at the end of a history), (d) adds `ac07_recv_step`; both need of a reachable state
only the RT flag last seen and the four capacities. Neither depends on the tables, so the hypothesis `EccOk tb` of the
`C07_*` theorems is never used.
-/
namespace RDS

def ac07_cell (cfg : Cfg) (ops : List Op) (t i : Nat) : Cell :=
  ((Obs.ofState (run cfg ops)).text t).cells.getD i blank

/-- "Until the text is reset", for the segment `ops2` played after `ops`. Only the state before each call is
constrained: the last call may switch progressive correction off, and thresholds, extended check and callbacks may
change anywhere. -/
def ac07_Quiet (cfg : Cfg) (t : Nat) (ops ops2 : List Op) : Prop :=
  ∀ pre op post, ops2 = pre ++ op :: post →
    (run cfg (ops ++ pre)).set.prog (textIdOf t) = true ∧
    ac07_resets (monAfter cfg (ops ++ pre)) (Obs.ofState (run cfg (ops ++ pre))) t op = false

/-- calls that leave the progressive flag of text `t` on and are not `init`/`clear`. The RT A/B switch-discard is
not excluded: it depends on the history (hypothesis `hsw` of `C07_history_rt_keeps`). -/
def keepsProg (t : TextId) : Op → Bool
  | .init | .clear => false
  | .setProg t' v => !(t' == t && v == false)
  | _ => true

/-- `op` is an error-free reception (block B and the carrying block) of byte `b` for cell `i` of buffer `t` -/
def ac07_EfAddr (t i b : Nat) (op : Op) : Prop :=
  ∃ g, op.group? = some g ∧ g.eb = 0 ∧ (t, i, b, 0) ∈ addressed g

/-- the bytes `rdsparser_string_update_single` stores when received error-free: 0x0D (end of text, stored as
code 0) or ≥ 0x20; other control codes are ignored -/
def ac07_Storable (b : Nat) : Prop := b = 0x0D ∨ 0x20 ≤ b

/-- the weighted level of C06 (`recvLevel`) -/
def ac07_wl (eb ex : Nat) : Nat := if eb = 0 ∧ ex = 0 then 0 else 2 * eb + 3 * ex - 1

def ac07_cap : Nat → Nat
  | 0 => capPs | 1 => capRt | 2 => capRt | _ => capPtyn

theorem ac07_quiet_nil (cfg : Cfg) (t : Nat) (ops : List Op) : ac07_Quiet cfg t ops [] := by
  intro pre op post h
  cases pre <;> cases h

theorem ac07_quiet_cons (cfg : Cfg) (t : Nat) (ops : List Op) (op : Op) (rest : List Op) :
    ac07_Quiet cfg t ops (op :: rest) ↔
      ((run cfg ops).set.prog (textIdOf t) = true ∧
        ac07_resets (monAfter cfg ops) (Obs.ofState (run cfg ops)) t op = false) ∧
      ac07_Quiet cfg t (ops ++ [op]) rest := by
  constructor
  · intro h
    exact ⟨by simpa using h [] op rest rfl, fun pre op' post hr => by
      simpa [List.append_assoc] using h (op :: pre) op' post (by rw [hr]; rfl)⟩
  · rintro ⟨h1, h2⟩ pre op' post hr
    cases pre with
    | nil => cases hr; simpa using h1
    | cons a pre => cases hr; simpa [List.append_assoc] using h2 pre op' post rfl

theorem ac07_quiet_suffix (cfg : Cfg) (t : Nat) (ops pre rest : List Op)
    (h : ac07_Quiet cfg t ops (pre ++ rest)) : ac07_Quiet cfg t (ops ++ pre) rest := by
  intro p op post hr
  have := h (pre ++ p) op post (by rw [hr, List.append_assoc])
  simpa [List.append_assoc] using this

def ac07_quietB (cfg : Cfg) (t : Nat) : Mon → State → List Op → Bool
  | _, _, [] => true
  | m, s, op :: rest =>
    s.set.prog (textIdOf t) && !ac07_resets m (Obs.ofState s) t op &&
      ac07_quietB cfg t (m.step cfg op) (step cfg s op).1 rest

theorem ac07_quiet_iff_B (cfg : Cfg) (t : Nat) (ops2 : List Op) :
    ∀ ops, ac07_Quiet cfg t ops ops2 ↔ ac07_quietB cfg t (monAfter cfg ops) (run cfg ops) ops2 = true := by
  induction ops2 with
  | nil => intro ops; exact ⟨fun _ => rfl, fun _ => ac07_quiet_nil cfg t ops⟩
  | cons op rest ih =>
    intro ops
    rw [ac07_quiet_cons, ih (ops ++ [op]), monAfter_snoc, run_snoc]
    simp only [ac07_quietB, Bool.and_eq_true, Bool.not_eq_true']

theorem ac07_quiet_of_B (cfg : Cfg) (t : Nat) (ops2 : List Op) :
    ∀ ops, ac07_quietB cfg t (monAfter cfg ops) (run cfg ops) ops2 = true → ac07_Quiet cfg t ops ops2 :=
  fun ops => (ac07_quiet_iff_B cfg t ops2 ops).mpr

theorem ac07_cap_eq (t : Nat) : ac07_cap t = capOf t := by
  match t with
  | 0 | 1 | 2 | _ + 3 => rfl

theorem ac07_cell_eq (cfg : Cfg) (ops : List Op) (t i : Nat) :
    ac07_cell cfg ops t i = ((run cfg ops).text t).getD i blank := by
  unfold ac07_cell; rw [obs_text_cells]

theorem ac07_wl_eq (eb ex : Nat) : ac07_wl eb ex = calcError eb ex := by
  rw [← recvLevel_eq]
  simp only [ac07_wl, recvLevel, Bool.and_eq_true, decide_eq_true_eq]

theorem ac07_step (cfg : Cfg) (ops : List Op) (op : Op) (t : Nat) (ht : t < 4) (i : Nat)
    (hp : (run cfg ops).set.prog (textIdOf t) = true)
    (hnr : ac07_resets (monAfter cfg ops) (Obs.ofState (run cfg ops)) t op = false) :
    ac07_cell cfg (ops ++ [op]) t i = ac07_cell cfg ops t i ∨
    ∃ g b ex, op.group? = some g ∧ (t, i, b, ex) ∈ addressed g ∧ rtNoisy (monAfter cfg ops) g = false ∧
      g.eb ≤ (run cfg ops).set.corr (textIdOf t) .info ∧ ex ≤ (run cfg ops).set.corr (textIdOf t) .data ∧
      ac07_Storable b ∧
      ac07_cell cfg (ops ++ [op]) t i = ⟨conv cfg b, ac07_wl g.eb ex⟩ ∧
      ac07_wl g.eb ex ≤ (ac07_cell cfg ops t i).lvl := by
  rw [ac07_cell_eq, ac07_cell_eq, run_snoc]
  rcases step_cell cfg _ _ op (linkL_run cfg ops).link.lastFlag (lens_run cfg ops) t ht hnr i with
    heq | ⟨g, b, ex, hg, hn, hmem, hnew⟩
  · exact .inl heq
  · rw [hp] at hnew
    have e : recvLevel g.eb ex = ac07_wl g.eb ex := by rw [recvLevel_eq, ac07_wl_eq]
    rcases cellSpec_cases cfg _ _ true (((run cfg ops).text t).getD i blank) b g.eb ex with
      h | ⟨h1, h2, h3, h4, h5, _⟩
    · exact .inl (hnew.trans h)
    · exact .inr ⟨g, b, ex, hg, hmem, hn, h2, h3, h5, hnew.trans (e ▸ h1), e ▸ h4 rfl⟩

theorem ac07_quiet_induct (cfg : Cfg) (t : Nat) {P : List Op → Prop} (ops2 : List Op) :
    ∀ ops, ac07_Quiet cfg t ops ops2 → P ops →
      (∀ h op, op ∈ ops2 → (run cfg h).set.prog (textIdOf t) = true →
        ac07_resets (monAfter cfg h) (Obs.ofState (run cfg h)) t op = false → P h → P (h ++ [op])) →
      P (ops ++ ops2) := by
  induction ops2 with
  | nil => intro ops _ h0 _; rwa [List.append_nil]
  | cons op rest ih =>
    intro ops hq h0 hs
    obtain ⟨⟨hp, hnr⟩, hq'⟩ := (ac07_quiet_cons ..).mp hq
    rw [List.append_cons]
    exact ih _ hq' (hs ops op (List.mem_cons_self ..) hp hnr h0) fun h o ho => hs h o (List.mem_cons_of_mem _ ho)

/-! ## (b) the character of a cell is replaced only by a reception that is not worse -/

/-- **C07, second clause.** If progressive correction is on for the text of buffer `t`, the call does not reset that
buffer (`init`/`clear`, or the RT switch-discard of that buffer) and the character of cell `i` differs afterwards,
then the call delivers a group, not ignored for RT (`rtNoisy`) and within the thresholds, that addresses the cell
with a byte whose weighted level is ≤ the level the cell had; the cell holds the byte's table image at that level. -/
theorem C07_char_replaced_only_by_not_worse (tb : Tabs) (h : EccOk tb) (ops : List Op) (op : Op)
    (t : Nat) (ht : t < 4) (i : Nat)
    (hp : (run tb.cfg ops).set.prog (textIdOf t) = true)
    (hnr : ac07_resets (monAfter tb.cfg ops) (Obs.ofState (run tb.cfg ops)) t op = false)
    (hch : (ac07_cell tb.cfg (ops ++ [op]) t i).ch ≠ (ac07_cell tb.cfg ops t i).ch) :
    ∃ g b ex, op.group? = some g ∧ (t, i, b, ex) ∈ addressed g ∧ rtNoisy (monAfter tb.cfg ops) g = false ∧
      g.eb ≤ (run tb.cfg ops).set.corr (textIdOf t) .info ∧ ex ≤ (run tb.cfg ops).set.corr (textIdOf t) .data ∧
      ac07_Storable b ∧
      ac07_cell tb.cfg (ops ++ [op]) t i = ⟨conv tb.cfg b, ac07_wl g.eb ex⟩ ∧
      ac07_wl g.eb ex ≤ (ac07_cell tb.cfg ops t i).lvl := by
  rcases ac07_step tb.cfg ops op t ht i hp hnr with heq | h
  · rw [heq] at hch; exact absurd rfl hch
  · exact h

/-! ## (a) levels never increase along a segment without reset -/

theorem ac07_history (cfg : Cfg) (t : Nat) (ht : t < 4) (ops ops2 : List Op) (hq : ac07_Quiet cfg t ops ops2) (i : Nat) :
    (ac07_cell cfg (ops ++ ops2) t i).lvl ≤ (ac07_cell cfg ops t i).lvl :=
  ac07_quiet_induct cfg t (P := fun h => (ac07_cell cfg h t i).lvl ≤ (ac07_cell cfg ops t i).lvl) ops2 ops hq
    (Nat.le_refl _) fun h op _ hp hnr ih => by
      rcases ac07_step cfg h op t ht i hp hnr with heq | ⟨_, _, _, _, _, _, _, _, _, hnew, hle⟩
      · rwa [heq]
      · rw [hnew]; exact Nat.le_trans hle ih

/-- **C07, first clause**, for each of the four buffers. -/
theorem C07_history_text (tb : Tabs) (h : EccOk tb) (t : Nat) (ht : t < 4) (ops2 : List Op) :
    ∀ ops : List Op, ac07_Quiet tb.cfg t ops ops2 → ∀ i,
      (ac07_cell tb.cfg (ops ++ ops2) t i).lvl ≤ (ac07_cell tb.cfg ops t i).lvl := fun ops hq i =>
  ac07_history tb.cfg t ht ops ops2 hq i

theorem ac07_text_rt {s : State} {f : Nat} (hf : f < 2) : ((Obs.ofState s).text (1 + f)).cells = s.rt f := by
  rw [obs_text_cells, text_rt _ _ hf]

/-- **C07, first clause**, for RT buffer `f` (0 = A, 1 = B) as the state holds it. -/
theorem C07_history_rt (tb : Tabs) (h : EccOk tb) (ops ops2 : List Op) (f : Nat) (hf : f < 2)
    (hq : ac07_Quiet tb.cfg (1 + f) ops ops2) (i : Nat) :
    (((run tb.cfg (ops ++ ops2)).rt f).getD i blank).lvl ≤ (((run tb.cfg ops).rt f).getD i blank).lvl := by
  have := C07_history_text tb h (1 + f) (by omega) ops2 ops hq i
  unfold ac07_cell at this
  rw [ac07_text_rt hf, ac07_text_rt hf] at this
  exact this

theorem ac07_step_prog (cfg : Cfg) (id : TextId) (s : State) (op : Op) (hk : keepsProg id op = true)
    (hp : s.set.prog id = true) : (step cfg s op).1.set.prog id = true := by
  rcases op.kind_cases with rfl | rfl | ⟨g, hg⟩ | ⟨hg, h1, h2⟩
  · cases hk
  · cases hk
  · rw [step_group _ _ hg, process_set]; exact hp
  · rw [step_quiet cfg s hg h1 h2]
    show (op.onSet s.set).prog id = true
    cases op with
    | setExt v => exact (Settings.setExt_prog ..).trans hp
    | setCorr t k v => exact (Settings.setCorr_prog ..).trans hp
    | setProg t v =>
      refine (Settings.setProg_prog ..).trans ?_
      split
      · rename_i h; subst h; cases v
        · simp [keepsProg] at hk
        · rfl
      · exact hp
    | _ => exact hp

theorem ac07_resets_none {m : Mon} {o : Obs} {t : Nat} {op : Op} (hi : op ≠ .init) (hc : op ≠ .clear)
    (hg : op.group? = none) : ac07_resets m o t op = false := by
  rw [ac07_resets_eq m o t hi hc, hg]

theorem ac07_quiet_of_keeps (cfg : Cfg) (t : Nat) (ops ops2 : List Op)
    (hp : (run cfg ops).set.prog (textIdOf t) = true) (hk : ∀ op ∈ ops2, keepsProg (textIdOf t) op = true)
    (hsw : ∀ pre op post g, ops2 = pre ++ op :: post → op.group? = some g →
      (switchDiscard (monAfter cfg (ops ++ pre)) (Obs.ofState (run cfg (ops ++ pre))) g &&
        decide (t = 1 + g.b / 16 % 2)) = false) :
    ac07_Quiet cfg t ops ops2 := by
  intro pre op post hr
  have hkop := hk op (by rw [hr]; simp)
  refine ⟨?_, ?_⟩
  · rw [run_append]
    exact runFrom_induct cfg (ac07_step_prog cfg (textIdOf t)) pre _
      (fun o ho => hk o (by rw [hr]; exact List.mem_append_left _ ho)) hp
  · cases hg : op.group? with
    | some g => rw [ac07_resets_group hg]; exact hsw pre op post g hr hg
    | none =>
      exact ac07_resets_none (fun h => by subst h; cases hkop) (fun h => by subst h; cases hkop) hg

/-- `C07_history_rt` with the hypotheses of `C07_history_ps`, and `hsw`: no type-2 group of `ops2` makes the A/B
switch discard buffer `f` (`switchDiscard` is evaluated at the point of the history where the group arrives). -/
theorem C07_history_rt_keeps (tb : Tabs) (h : EccOk tb) (ops ops2 : List Op) (f : Nat) (hf : f < 2)
    (hp : (run tb.cfg ops).set.progRt = true) (hk : ∀ op ∈ ops2, keepsProg .rt op = true)
    (hsw : ∀ pre op post g, ops2 = pre ++ op :: post → op.group? = some g →
      (switchDiscard (monAfter tb.cfg (ops ++ pre)) (Obs.ofState (run tb.cfg (ops ++ pre))) g &&
        decide (f = g.b / 16 % 2)) = false)
    (i : Nat) :
    (((run tb.cfg (ops ++ ops2)).rt f).getD i blank).lvl ≤ (((run tb.cfg ops).rt f).getD i blank).lvl := by
  refine C07_history_rt tb h ops ops2 f hf (ac07_quiet_of_keeps tb.cfg (1 + f) ops ops2 ?_ ?_ ?_) i
  · rw [textIdOf_rt f hf]; exact hp
  · rw [textIdOf_rt f hf]; exact hk
  · intro pre op post g hr hg
    rw [show decide (1 + f = 1 + g.b / 16 % 2) = decide (f = g.b / 16 % 2) from decide_eq_decide.mpr (by omega)]
    exact hsw pre op post g hr hg

/-- PS and PTYN have no reset of their own: `keepsProg` alone makes a segment quiet -/
theorem ac07_history_keeps (cfg : Cfg) (t : Nat) (ht : t < 4) (hrt : ∀ f, f < 2 → t ≠ 1 + f)
    (ops ops2 : List Op) (hp : (run cfg ops).set.prog (textIdOf t) = true)
    (hk : ∀ op ∈ ops2, keepsProg (textIdOf t) op = true) (i : Nat) :
    (ac07_cell cfg (ops ++ ops2) t i).lvl ≤ (ac07_cell cfg ops t i).lvl :=
  ac07_history cfg t ht ops ops2
    (ac07_quiet_of_keeps cfg t ops ops2 hp hk fun _ _ _ g _ _ => by
      rw [decide_eq_false (hrt _ (Nat.mod_lt _ (by decide))), Bool.and_false]) i

theorem C07_history_ps (tb : Tabs) (h : EccOk tb) (ops ops2 : List Op)
    (hp : (run tb.cfg ops).set.progPs = true) (hk : ∀ op ∈ ops2, keepsProg .ps op = true) (i : Nat) :
    ((run tb.cfg (ops ++ ops2)).ps.getD i blank).lvl ≤ ((run tb.cfg ops).ps.getD i blank).lvl :=
  ac07_history_keeps tb.cfg 0 (by omega) (fun _ _ => by omega) ops ops2 hp hk i

theorem C07_history_ptyn (tb : Tabs) (h : EccOk tb) (ops ops2 : List Op)
    (hp : (run tb.cfg ops).set.progPtyn = true) (hk : ∀ op ∈ ops2, keepsProg .ptyn op = true) (i : Nat) :
    ((run tb.cfg (ops ++ ops2)).ptyn.getD i blank).lvl ≤ ((run tb.cfg ops).ptyn.getD i blank).lvl :=
  ac07_history_keeps tb.cfg 3 (by omega) (fun _ _ => by omega) ops ops2 hp hk i

theorem C07_level0_sticky_ps (tb : Tabs) (h : EccOk tb) (ops ops2 : List Op)
    (hp : (run tb.cfg ops).set.progPs = true) (hk : ∀ op ∈ ops2, keepsProg .ps op = true) (i : Nat)
    (h0 : ((run tb.cfg ops).ps.getD i blank).lvl = 0) :
    ((run tb.cfg (ops ++ ops2)).ps.getD i blank).lvl = 0 := by
  have := C07_history_ps tb h ops ops2 hp hk i
  omega

#print axioms C07_history_ps
#print axioms C07_history_ptyn
#print axioms C07_level0_sticky_ps

/-! ## (c) an error-free character is changed only by another error-free reception -/

theorem ac07_cell_eta {c : Cell} {ch : Nat} (h0 : c.lvl = 0) (hc : ch = c.ch) : (⟨ch, 0⟩ : Cell) = c := by
  cases c; simp_all

theorem ac07_step_level0 (cfg : Cfg) (ops : List Op) (op : Op) (t : Nat) (ht : t < 4) (i : Nat)
    (hp : (run cfg ops).set.prog (textIdOf t) = true)
    (hnr : ac07_resets (monAfter cfg ops) (Obs.ofState (run cfg ops)) t op = false)
    (h0 : (ac07_cell cfg ops t i).lvl = 0) :
    ac07_cell cfg (ops ++ [op]) t i = ac07_cell cfg ops t i ∨
    ∃ b, ac07_EfAddr t i b op ∧ ac07_Storable b ∧ ac07_cell cfg (ops ++ [op]) t i = ⟨conv cfg b, 0⟩ := by
  rcases ac07_step cfg ops op t ht i hp hnr with heq | ⟨g, b, ex, hg, hmem, _, _, _, hst, hnew, hle⟩
  · exact .inl heq
  · have hwl : ac07_wl g.eb ex = 0 := Nat.le_zero.mp (h0 ▸ hle)
    have hz := (calcError_eq_zero g.eb ex).mp (ac07_wl_eq .. ▸ hwl)
    rw [hwl] at hnew
    exact .inr ⟨b, ⟨g, hg, hz.1, hz.2 ▸ hmem⟩, hst, hnew⟩

/-- **C07, third clause, one call.** Under progressive correction, if a call that does not reset buffer `t` changes
a cell at level 0 (character or level), it is an error-free reception addressed to that cell of a storable byte
whose table image differs from the old character; the cell holds that image, again at level 0. -/
theorem C07_error_free_sticky (tb : Tabs) (h : EccOk tb) (ops : List Op) (op : Op)
    (t : Nat) (ht : t < 4) (i : Nat)
    (hp : (run tb.cfg ops).set.prog (textIdOf t) = true)
    (hnr : ac07_resets (monAfter tb.cfg ops) (Obs.ofState (run tb.cfg ops)) t op = false)
    (h0 : (ac07_cell tb.cfg ops t i).lvl = 0)
    (hch : ac07_cell tb.cfg (ops ++ [op]) t i ≠ ac07_cell tb.cfg ops t i) :
    ∃ b, ac07_EfAddr t i b op ∧ ac07_Storable b ∧ conv tb.cfg b ≠ (ac07_cell tb.cfg ops t i).ch ∧
      ac07_cell tb.cfg (ops ++ [op]) t i = ⟨conv tb.cfg b, 0⟩ := by
  rcases ac07_step_level0 tb.cfg ops op t ht i hp hnr h0 with heq | ⟨b, hef, hst, hnew⟩
  · exact absurd heq hch
  · exact ⟨b, hef, hst, fun he => hch (hnew.trans (ac07_cell_eta h0 he)), hnew⟩

theorem ac07_sticky (cfg : Cfg) (t : Nat) (ht : t < 4) (i : Nat) (c : Cell) (hc0 : c.lvl = 0)
    (ops ops2 : List Op) (hq : ac07_Quiet cfg t ops ops2) (hc : ac07_cell cfg ops t i = c)
    (hno : ∀ op ∈ ops2, ∀ b, ac07_EfAddr t i b op → ac07_Storable b → conv cfg b = c.ch) :
    ac07_cell cfg (ops ++ ops2) t i = c :=
  ac07_quiet_induct cfg t (P := fun h => ac07_cell cfg h t i = c) ops2 ops hq hc fun hist op hop hp hnr ih => by
    rcases ac07_step_level0 cfg hist op t ht i hp hnr (by rw [ih]; exact hc0) with heq | ⟨b, hef, hst, hnew⟩
    · rw [heq]; exact ih
    · rw [hnew]; exact ac07_cell_eta hc0 (hno op hop b hef hst)

/-- **C07, third clause, over histories.** A cell at level 0 is the same (character and level) at the end of a quiet
segment unless an error-free reception addressed to it carries a storable byte with a different table image,
whatever corrected receptions and threshold changes are interleaved. -/
theorem C07_error_free_sticky_history (tb : Tabs) (h : EccOk tb) (ops ops2 : List Op)
    (t : Nat) (ht : t < 4) (i : Nat)
    (hq : ac07_Quiet tb.cfg t ops ops2)
    (h0 : (ac07_cell tb.cfg ops t i).lvl = 0)
    (hno : ∀ op ∈ ops2, ∀ b, ac07_EfAddr t i b op → ac07_Storable b → conv tb.cfg b = (ac07_cell tb.cfg ops t i).ch) :
    ac07_cell tb.cfg (ops ++ ops2) t i = ac07_cell tb.cfg ops t i :=
  ac07_sticky tb.cfg t ht i _ h0 ops ops2 hq rfl hno

/-! ## (d) convergence -/

/-- No hypothesis on the settings, the old cell or resets: an error-free storable byte is stored even by the call
whose A/B switch empties the buffer first. -/
theorem ac07_recv_step (cfg : Cfg) (ops : List Op) (op0 : Op) (t i b : Nat)
    (hrecv : ac07_EfAddr t i b op0) (hb : ac07_Storable b) :
    ac07_cell cfg (ops ++ [op0]) t i = ⟨conv cfg b, 0⟩ := by
  obtain ⟨g, hg, heb, hmem⟩ := hrecv
  have ht : t < 4 := Nat.lt_succ_of_le (C05_addressed_in_range g _ hmem).1
  have hn : (decide (g.type = 2) && g2noisy (run cfg ops) g) = false := by simp [g2noisy, heb]
  rw [ac07_cell_eq, run_snoc, step_group _ _ hg, process_getD cfg _ g (lens_run cfg ops) t ht i, hn]
  simp only [Bool.false_eq_true, if_false]
  rw [addressed_find g _ hmem]
  simp only []
  rw [heb, cellSpec_error_free_stored hb]

/-- **C07, last clause, one cell.** `op0` is an error-free reception of a storable byte `b` for the cell; the
settings before it are arbitrary and `op0` may itself be the A/B switch that empties the buffer. `ops2` is quiet, and
every later error-free storable byte for the cell has the same table image (error-free control codes below 0x20 are
ignored by the library and need no hypothesis). Then the cell ends as `⟨conv b, 0⟩`, which is `⟨0, 0⟩` (end of text)
for `b = 0x0D`. -/
theorem C07_converges (tb : Tabs) (h : EccOk tb) (ops : List Op) (op0 : Op) (ops2 : List Op)
    (t i b : Nat)
    (hrecv : ac07_EfAddr t i b op0) (hb : ac07_Storable b)
    (hq : ac07_Quiet tb.cfg t (ops ++ [op0]) ops2)
    (hsame : ∀ op ∈ ops2, ∀ b', ac07_EfAddr t i b' op → ac07_Storable b' → conv tb.cfg b' = conv tb.cfg b) :
    ac07_cell tb.cfg (ops ++ op0 :: ops2) t i = ⟨conv tb.cfg b, 0⟩ := by
  obtain ⟨g, hg, heb, hmem⟩ := hrecv
  have ht : t < 4 := Nat.lt_succ_of_le (C05_addressed_in_range g _ hmem).1
  rw [List.append_cons]
  exact ac07_sticky tb.cfg t ht i ⟨conv tb.cfg b, 0⟩ rfl (ops ++ [op0]) ops2 hq
    (ac07_recv_step tb.cfg ops op0 t i b ⟨g, hg, heb, hmem⟩ hb) hsame

/-- **C07, last clause, the whole string.** `rest` is quiet after `opf`, which may itself reset the text (e.g. the A/B
switch that starts a new RT message). If every cell `i` is, somewhere in `opf :: rest`, addressed by an error-free
reception of a storable byte `bytes i`, and later error-free storable bytes for it have the same table image, the
buffer ends as the images of `bytes` at level 0, regardless of interleaved corrected receptions. -/
theorem C07_converges_string (tb : Tabs) (h : EccOk tb) (ops : List Op) (opf : Op) (rest : List Op)
    (t : Nat) (bytes : Nat → Nat)
    (hq : ac07_Quiet tb.cfg t (ops ++ [opf]) rest)
    (hall : ∀ i, i < ac07_cap t → ∃ pre op0 post, opf :: rest = pre ++ op0 :: post ∧
      ac07_EfAddr t i (bytes i) op0 ∧ ac07_Storable (bytes i) ∧
      ∀ op ∈ post, ∀ b', ac07_EfAddr t i b' op → ac07_Storable b' → conv tb.cfg b' = conv tb.cfg (bytes i)) :
    ((Obs.ofState (run tb.cfg (ops ++ opf :: rest))).text t).cells =
      (List.range (ac07_cap t)).map (fun i => (⟨conv tb.cfg (bytes i), 0⟩ : Cell)) := by
  have hcell : ∀ i, i < ac07_cap t →
      ac07_cell tb.cfg (ops ++ opf :: rest) t i = ⟨conv tb.cfg (bytes i), 0⟩ := by
    intro i hi
    obtain ⟨pre, op0, post, hsplit, hrecv, hst, hsame⟩ := hall i hi
    cases pre with
    | nil =>
      cases hsplit
      exact C07_converges tb h ops opf rest t i (bytes i) hrecv hst hq hsame
    | cons a pre' =>
      cases hsplit
      have hq' : ac07_Quiet tb.cfg t ((ops ++ opf :: pre') ++ [op0]) post := by
        have := ac07_quiet_suffix tb.cfg t (ops ++ [opf]) (pre' ++ [op0]) post (by simpa [List.append_assoc] using hq)
        simpa [List.append_assoc] using this
      have := C07_converges tb h (ops ++ opf :: pre') op0 post t i (bytes i) hrecv hst hq' hsame
      simpa [List.append_assoc] using this
  have hlen : ((Obs.ofState (run tb.cfg (ops ++ opf :: rest))).text t).cells.length = ac07_cap t := by
    rw [obs_text_cells]; exact (ac07_cap_eq t ▸ (lens_run tb.cfg _).text t)
  rw [← range_map_getD (((Obs.ofState _).text t).cells), hlen]
  exact List.map_congr_left fun i hi => hcell i (List.mem_range.mp hi)

/-! ## the hypotheses as `Bool`s, for the examples below -/

instance (b : Nat) : Decidable (ac07_Storable b) := by unfold ac07_Storable; infer_instance

def ac07_efBytes (t i : Nat) (op : Op) : List Nat :=
  match op.group? with
  | some g =>
    if g.eb = 0 then
      ((addressed g).filter (fun a => a.1 = t && a.2.1 = i && a.2.2.2 = 0)).map (fun a => a.2.2.1)
    else []
  | none => []

theorem ac07_efAddr_iff (t i b : Nat) (op : Op) : ac07_EfAddr t i b op ↔ b ∈ ac07_efBytes t i op := by
  unfold ac07_EfAddr ac07_efBytes
  cases op.group? with
  | none => simp
  | some g =>
    by_cases heb : g.eb = 0
    · simp only [Option.some.injEq, exists_eq_left', heb, true_and, if_true, List.mem_map, List.mem_filter,
        Bool.and_eq_true, decide_eq_true_eq, Prod.exists]
      constructor
      · intro h; exact ⟨t, i, b, 0, ⟨h, ⟨rfl, rfl⟩, rfl⟩, rfl⟩
      · rintro ⟨_, _, _, _, ⟨h, ⟨rfl, rfl⟩, rfl⟩, rfl⟩; exact h
    · simp [heb]

def ac07_sameB (cfg : Cfg) (t i b : Nat) (post : List Op) : Bool :=
  post.all fun op => (ac07_efBytes t i op).all fun b' => !(decide (ac07_Storable b')) || conv cfg b' == conv cfg b

theorem ac07_same_of_B (cfg : Cfg) (t i b : Nat) (post : List Op) (hB : ac07_sameB cfg t i b post = true) :
    ∀ op ∈ post, ∀ b', ac07_EfAddr t i b' op → ac07_Storable b' → conv cfg b' = conv cfg b := by
  intro op hop b' hef hst
  have h := List.all_eq_true.mp (List.all_eq_true.mp hB op hop) b' ((ac07_efAddr_iff t i b' op).mp hef)
  simpa [hst] using h

def ac07_hallB (cfg : Cfg) (t : Nat) (bytes : Nat → Nat) (l : List Op) (i : Nat) : Bool :=
  (List.range l.length).any fun k =>
    match l[k]? with
    | some op0 =>
      (ac07_efBytes t i op0).contains (bytes i) && decide (ac07_Storable (bytes i)) &&
        ac07_sameB cfg t i (bytes i) (l.drop (k + 1))
    | none => false

theorem ac07_hall_of_B (cfg : Cfg) (t : Nat) (bytes : Nat → Nat) (l : List Op) (i : Nat)
    (hB : ac07_hallB cfg t bytes l i = true) :
    ∃ pre op0 post, l = pre ++ op0 :: post ∧ ac07_EfAddr t i (bytes i) op0 ∧ ac07_Storable (bytes i) ∧
      ∀ op ∈ post, ∀ b', ac07_EfAddr t i b' op → ac07_Storable b' → conv cfg b' = conv cfg (bytes i) := by
  unfold ac07_hallB at hB
  rw [List.any_eq_true] at hB
  obtain ⟨k, _, hk⟩ := hB
  cases hl : l[k]? with
  | none => rw [hl] at hk; cases hk
  | some op0 =>
    rw [hl] at hk
    simp only [Bool.and_eq_true, decide_eq_true_eq, List.contains_iff_mem] at hk
    obtain ⟨hlt, hget⟩ := List.getElem?_eq_some_iff.mp hl
    refine ⟨l.take k, op0, l.drop (k + 1), ?_, (ac07_efAddr_iff _ _ _ _).mpr hk.1.1, hk.1.2,
      ac07_same_of_B cfg t i _ _ hk.2⟩
    rw [← hget, ← List.drop_eq_getElem_cons hlt, List.take_append_drop]


/-! ## non-vacuity: concrete histories satisfying the hypotheses (closed terms, evaluated by the kernel) -/

/-- identity charset, ECC table constantly 7 -/
def ac07_toyCfg : Cfg := ⟨true, fun b => b, fun _ _ => 7⟩
def ac07_toyTabs : Tabs := ⟨ac07_toyCfg, 10⟩
theorem ac07_toy_ok : EccOk ac07_toyTabs := ⟨by decide, fun _ _ => by show (7 : Nat) < 10; omega⟩

/-- RT set-up: progressive on, both thresholds 2 -/
def ac07_rtSetup : List Op := [.setProg .rt true, .setCorr .rt .info 2, .setCorr .rt .data 2]
/-- 2A, flag A, segment 0, "ABCD", block B error 1, block C error 1: levels 4,4,1,1 -/
def ac07_gR0 : Group := ⟨0, 0x2000, 0x4142, 0x4344, 0, 1, 1, 0⟩
/-- 2A, flag A, segment 0, "QRST", block C error-free, block D error 2 (level 5: rejected by progressive) -/
def ac07_gR1 : Group := ⟨0, 0x2000, 0x5152, 0x5354, 0, 0, 0, 2⟩
/-- 2A, flag B, segment 0, error-free: a switch, buffer B is still empty so nothing is discarded -/
def ac07_gR2 : Group := ⟨0, 0x2010, 0x6162, 0x6364, 0, 0, 0, 0⟩
/-- 2A, flag A again, error-free: the switch discards buffer A -/
def ac07_gR3 : Group := ⟨0, 0x2001, 0x7172, 0x7374, 0, 0, 0, 0⟩

/-- (a) `C07_history_rt`: a quiet segment with an accepted improvement, a rejected worse reception, a threshold change,
a switch to the other buffer, and progressive switched off by the last call; levels 4,4,1,1 become 0,0,1,1 -/
example : ac07_Quiet ac07_toyCfg 1 (ac07_rtSetup ++ [.parse ac07_gR0])
      [.parse ac07_gR1, .setCorr .rt .data 0, .parse ac07_gR2, .setProg .rt false] ∧
    ((run ac07_toyCfg (ac07_rtSetup ++ [.parse ac07_gR0])).rt 0).take 5 =
      [⟨0x41, 4⟩, ⟨0x42, 4⟩, ⟨0x43, 1⟩, ⟨0x44, 1⟩, blank] ∧
    ((run ac07_toyCfg ((ac07_rtSetup ++ [.parse ac07_gR0]) ++
      [.parse ac07_gR1, .setCorr .rt .data 0, .parse ac07_gR2, .setProg .rt false])).rt 0).take 5 =
      [⟨0x51, 0⟩, ⟨0x52, 0⟩, ⟨0x43, 1⟩, ⟨0x44, 1⟩, blank] := by
  refine ⟨(ac07_quiet_iff_B _ _ _ _).mpr (by decide +kernel), by decide +kernel, by decide +kernel⟩

/-- … and `ac07_Quiet` is not trivially true: the switch back to flag A discards buffer A -/
example : ¬ ac07_Quiet ac07_toyCfg 1 (ac07_rtSetup ++ [.parse ac07_gR0])
      [.parse ac07_gR1, .parse ac07_gR2, .parse ac07_gR3] := by
  rw [ac07_quiet_iff_B]; decide +kernel

/-- the `keepsProg`-shaped hypotheses of `C07_history_rt_keeps` on the same segment (without the final `setProg`) -/
example : (run ac07_toyCfg (ac07_rtSetup ++ [.parse ac07_gR0])).set.progRt = true ∧
    (∀ op ∈ [Op.parse ac07_gR1, .setCorr .rt .data 0, .parse ac07_gR2], keepsProg .rt op = true) := by
  refine ⟨by decide +kernel, ?_⟩
  intro op hop; simp at hop; rcases hop with rfl | rfl | rfl <;> rfl

/-- (b) `C07_char_replaced_only_by_not_worse`: the three hypotheses hold for cell 0 of RT buffer A when `ac07_gR1`
arrives ('A' at level 4 is replaced by 'Q' at level 0) -/
example : (run ac07_toyCfg (ac07_rtSetup ++ [.parse ac07_gR0])).set.prog (textIdOf 1) = true ∧
    ac07_resets (monAfter ac07_toyCfg (ac07_rtSetup ++ [.parse ac07_gR0]))
      (Obs.ofState (run ac07_toyCfg (ac07_rtSetup ++ [.parse ac07_gR0]))) 1 (.parse ac07_gR1) = false ∧
    (ac07_cell ac07_toyCfg ((ac07_rtSetup ++ [.parse ac07_gR0]) ++ [.parse ac07_gR1]) 1 0).ch ≠
      (ac07_cell ac07_toyCfg (ac07_rtSetup ++ [.parse ac07_gR0]) 1 0).ch := by
  decide +kernel

/-- 2A, flag A, segment 0, "qrst", error-free -/
def ac07_gR4 : Group := ⟨0, 0x2000, 0x7172, 0x7374, 0, 0, 0, 0⟩
-- (c) `C07_error_free_sticky`: cell 0 holds 'Q' at level 0; `ac07_gR4` changes it (the hypotheses hold), `ac07_gR0`
-- ("ABCD" with errors) does not
example :
    (run ac07_toyCfg (ac07_rtSetup ++ [.parse ac07_gR0, .parse ac07_gR1])).set.prog (textIdOf 1) = true ∧
    ac07_resets (monAfter ac07_toyCfg (ac07_rtSetup ++ [.parse ac07_gR0, .parse ac07_gR1]))
      (Obs.ofState (run ac07_toyCfg (ac07_rtSetup ++ [.parse ac07_gR0, .parse ac07_gR1]))) 1 (.parse ac07_gR4) = false ∧
    (ac07_cell ac07_toyCfg (ac07_rtSetup ++ [.parse ac07_gR0, .parse ac07_gR1]) 1 0).lvl = 0 ∧
    ac07_cell ac07_toyCfg ((ac07_rtSetup ++ [.parse ac07_gR0, .parse ac07_gR1]) ++ [.parse ac07_gR4]) 1 0 ≠
      ac07_cell ac07_toyCfg (ac07_rtSetup ++ [.parse ac07_gR0, .parse ac07_gR1]) 1 0 ∧
    ac07_cell ac07_toyCfg ((ac07_rtSetup ++ [.parse ac07_gR0, .parse ac07_gR1]) ++ [.parse ac07_gR0]) 1 0 =
      ac07_cell ac07_toyCfg (ac07_rtSetup ++ [.parse ac07_gR0, .parse ac07_gR1]) 1 0 := by
  decide +kernel

/-- (c) `C07_error_free_sticky_history`: hypotheses on a segment with corrected receptions and a threshold change -/
example : ac07_Quiet ac07_toyCfg 1 (ac07_rtSetup ++ [.parse ac07_gR0, .parse ac07_gR1])
      [.parse ac07_gR0, .setCorr .rt .info 1, .parse ac07_gR0, .parse ac07_gR1] ∧
    (ac07_cell ac07_toyCfg (ac07_rtSetup ++ [.parse ac07_gR0, .parse ac07_gR1]) 1 0).lvl = 0 ∧
    (∀ op ∈ [Op.parse ac07_gR0, .setCorr .rt .info 1, .parse ac07_gR0, .parse ac07_gR1], ∀ b,
      ac07_EfAddr 1 0 b op → ac07_Storable b →
      conv ac07_toyCfg b = (ac07_cell ac07_toyCfg (ac07_rtSetup ++ [.parse ac07_gR0, .parse ac07_gR1]) 1 0).ch) := by
  refine ⟨(ac07_quiet_iff_B _ _ _ _).mpr (by decide +kernel), by decide +kernel, ?_⟩
  have e : (ac07_cell ac07_toyCfg (ac07_rtSetup ++ [.parse ac07_gR0, .parse ac07_gR1]) 1 0).ch =
      conv ac07_toyCfg 0x51 := by decide +kernel
  rw [e]
  exact ac07_same_of_B _ _ _ _ _ (by decide +kernel)

/-- 2A, flag A, segment 1, "ABC\r", error-free -/
def ac07_gE : Group := ⟨0, 0x2001, 0x4142, 0x430D, 0, 0, 0, 0⟩
/-- the same segment, "XYZZ", every block with error 1 -/
def ac07_gX : Group := ⟨0, 0x2001, 0x5859, 0x5A5A, 0, 1, 1, 1⟩
def ac07_tail : List Op := [.parse ac07_gX, .setCorr .rt .info 1, .parse ac07_gE, .parse ac07_gX]

-- (d) `C07_converges`: `ac07_gE` is the first type-2 group of the history; after the corrected receptions, the
-- threshold change and the repetition in `ac07_tail`, cell 4 holds 'A'
example : ac07_EfAddr 1 4 0x41 (.parse ac07_gE) ∧ ac07_Storable 0x41 ∧
    ac07_Quiet ac07_toyCfg 1 (ac07_rtSetup ++ [.parse ac07_gE]) ac07_tail ∧
    (∀ op ∈ ac07_tail, ∀ b', ac07_EfAddr 1 4 b' op → ac07_Storable b' → conv ac07_toyCfg b' = conv ac07_toyCfg 0x41) :=
  ⟨(ac07_efAddr_iff _ _ _ _).mpr (by decide +kernel), by decide,
    (ac07_quiet_iff_B _ _ _ _).mpr (by decide +kernel), ac07_same_of_B _ _ _ _ _ (by decide +kernel)⟩

def ac07_pre : List Op := ac07_rtSetup ++ [.parse ac07_gR0, .parse ac07_gR2]
-- the same for cell 7 (byte 0x0D, ending as the end-of-text marker), with `op0` itself the A/B switch that discards
-- buffer A, which is allowed: `ac07_resets … = true` for `op0`
example : ac07_EfAddr 1 7 0x0D (.parse ac07_gE) ∧ ac07_Storable 0x0D ∧
    ac07_resets (monAfter ac07_toyCfg ac07_pre) (Obs.ofState (run ac07_toyCfg ac07_pre)) 1 (.parse ac07_gE) = true ∧
    ac07_Quiet ac07_toyCfg 1 (ac07_pre ++ [.parse ac07_gE]) ac07_tail ∧
    (∀ op ∈ ac07_tail, ∀ b', ac07_EfAddr 1 7 b' op → ac07_Storable b' → conv ac07_toyCfg b' = conv ac07_toyCfg 0x0D) ∧
    ac07_cell ac07_toyCfg (ac07_pre ++ .parse ac07_gE :: ac07_tail) 1 7 = ⟨0, 0⟩ ∧
    ac07_cell ac07_toyCfg (ac07_pre ++ .parse ac07_gE :: ac07_tail) 1 0 = blank :=
  ⟨(ac07_efAddr_iff _ _ _ _).mpr (by decide +kernel), by decide, by decide +kernel,
    (ac07_quiet_iff_B _ _ _ _).mpr (by decide +kernel), ac07_same_of_B _ _ _ _ _ (by decide +kernel),
    by decide +kernel, by decide +kernel⟩

def ac07_psSetup : List Op := [.setProg .ps true, .setCorr .ps .info 2, .setCorr .ps .data 2]
def ac07_p (seg d eb ed : Nat) : Op := .parse ⟨0, seg, 0, d, 0, eb, 0, ed⟩
def ac07_psRest : List Op :=
  [ac07_p 1 0x4344 0 0, ac07_p 0 0x5858 1 1, ac07_p 3 0x5858 1 0, ac07_p 2 0x4546 0 0, ac07_p 3 0x470D 0 0,
   ac07_p 1 0x5858 0 2, ac07_p 0 0x4142 0 0]
def ac07_psBytes (i : Nat) : Nat := [0x41, 0x42, 0x43, 0x44, 0x45, 0x46, 0x47, 0x0D].getD i 0

-- (d) `C07_converges_string`: PS "ABCDEFG\r" from four distinct error-free 0A groups (segment 0 comes twice) with
-- corrected junk in between
example : ac07_Quiet ac07_toyCfg 0 (ac07_psSetup ++ [ac07_p 0 0x4142 0 0]) ac07_psRest ∧
    (∀ i, i < ac07_cap 0 → ∃ pre op0 post, ac07_p 0 0x4142 0 0 :: ac07_psRest = pre ++ op0 :: post ∧
      ac07_EfAddr 0 i (ac07_psBytes i) op0 ∧ ac07_Storable (ac07_psBytes i) ∧
      ∀ op ∈ post, ∀ b', ac07_EfAddr 0 i b' op → ac07_Storable b' →
        conv ac07_toyCfg b' = conv ac07_toyCfg (ac07_psBytes i)) ∧
    (run ac07_toyCfg (ac07_psSetup ++ ac07_p 0 0x4142 0 0 :: ac07_psRest)).ps =
      [⟨0x41, 0⟩, ⟨0x42, 0⟩, ⟨0x43, 0⟩, ⟨0x44, 0⟩, ⟨0x45, 0⟩, ⟨0x46, 0⟩, ⟨0x47, 0⟩, ⟨0, 0⟩] := by
  refine ⟨(ac07_quiet_iff_B _ _ _ _).mpr (by decide +kernel), ?_, by decide +kernel⟩
  intro i hi
  apply ac07_hall_of_B
  revert i
  decide +kernel


end RDS
