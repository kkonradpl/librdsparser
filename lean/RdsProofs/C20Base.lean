import RdsModel
import RdsSpec.Monitors
import RdsSpec.Statements
import RdsProofs.Frame
import RdsProofs.Sim
/-!
# C20: a generic two-run simulation through every handler

Two parsers run the same calls, one with configuration `cfgn`, one with `cfgw` (same `ecc` table).
`c20_R T P sn sw` relates their states: everything but the texts is equal, the texts are related by
`T`, the settings satisfy `P`. The events of a call are related by `EL`. `c20_Ax` lists what the
parameters have to satisfy (in particular how one `parserUpdate` acts on `T`-related texts when the
16-bit word satisfies `W`); from it, `c20_sim_step` and `c20_run` follow for every handler.

Instances: `C20Ascii` (T = "is the embedding of", W = both bytes < 0x7F) and `C20Mask`
(T = "same received-mask", W = True).
-/
namespace RDS

def c20_isText : EvKind → Bool
  | .ps | .rt _ | .ptyn => true
  | _ => false

structure c20_R (T : Text → Text → Prop) (P : Settings → Prop) (sn sw : State) : Prop where
  used : sn.used = sw.used
  temp : sn.temp = sw.temp
  set : sn.set = sw.set
  lastRt : sn.lastRt = sw.lastRt
  cbs : sn.cbs = sw.cbs
  ud : sn.ud = sw.ud
  termPs : sn.termPs = sw.termPs
  termRt0 : sn.termRt0 = sw.termRt0
  termRt1 : sn.termRt1 = sw.termRt1
  termPtyn : sn.termPtyn = sw.termPtyn
  ps : T sn.ps sw.ps
  rt0 : T sn.rt0 sw.rt0
  rt1 : T sn.rt1 sw.rt1
  ptyn : T sn.ptyn sw.ptyn
  pset : P sn.set

/-- arriving with error levels `eb`, `ex`, the word `w` acts on every text as some word satisfying `W` does
(itself, or what is left of it once the bytes that these error levels reject anyway are replaced) -/
def c20_WE (W : Nat → Prop) (w eb ex : Nat) : Prop :=
  ∃ w', W w' ∧ ∀ cfg set t id pos, parserUpdate cfg set t id w eb ex pos = parserUpdate cfg set t id w' eb ex pos

theorem c20_WE.of {W : Nat → Prop} {w : Nat} (h : W w) (eb ex : Nat) : c20_WE W w eb ex :=
  ⟨w, h, fun _ _ _ _ _ => rfl⟩

/-- the words of a group that reach `parserUpdate` satisfy `W` as far as their error levels let them act -/
def c20_GW (W : Nat → Prop) (g : Group) : Prop :=
  (g.type = 0 → c20_WE W g.d g.eb g.ed) ∧
  (g.type = 2 → (g.versionB = false → c20_WE W g.c g.eb g.ec) ∧ c20_WE W g.d g.eb g.ed) ∧
  (g.type = 10 → g.versionB = false → c20_WE W g.c g.eb g.ec ∧ c20_WE W g.d g.eb g.ed)

structure c20_Ax (cfgn cfgw : Cfg) (T : Text → Text → Prop) (P : Settings → Prop) (W : Nat → Prop)
    (FR : Bool → Bool → Prop) (EL : List Event → List Event → Prop) : Prop where
  ecc : cfgn.ecc = cfgw.ecc
  el_nil : EL [] []
  el_app : ∀ {a a' b b'}, EL a a' → EL b b' → EL (a ++ b) (a' ++ b')
  el_emit : ∀ {sn sw} (c : Cb) (k : EvKind), c20_R T P sn sw → c20_isText k = false → EL (emit sn c k) (emit sw c k)
  el_text : ∀ {sn sw} (c : Cb) (k : EvKind) (f f' : Bool), c20_R T P sn sw → c20_isText k = true → FR f f' →
    EL (if f then emit sn c k else []) (if f' then emit sw c k else [])
  fr_refl : ∀ b, FR b b
  fr_or : ∀ {a a' b b'}, FR a a' → FR b b' → FR (a || b) (a' || b')
  pu : ∀ {tn tw} (set : Settings) (id : TextId) (w eb ex pos : Nat), T tn tw → P set → W w →
    T (parserUpdate cfgn set tn id w eb ex pos).1 (parserUpdate cfgw set tw id w eb ex pos).1 ∧
    FR (parserUpdate cfgn set tn id w eb ex pos).2 (parserUpdate cfgw set tw id w eb ex pos).2
  avail : ∀ {t t'}, T t t' → getAvailable t = getAvailable t'
  cleared : ∀ {t t'}, T t t' → T t.cleared t'.cleared
  init : ∀ n, T (List.replicate n blank) (List.replicate n blank)
  p_init : P Settings.init
  p_ext : ∀ s v, P s → P { s with ext := v }
  p_corr : ∀ s t k v, P s → P (s.setCorr t k v)
  p_prog : ∀ s t v, P s → P (s.setProg t v)

section generic
variable {cfgn cfgw : Cfg} {T : Text → Text → Prop} {P : Settings → Prop} {W : Nat → Prop}
  {FR : Bool → Bool → Prop} {EL : List Event → List Event → Prop}

theorem c20_Ax.ev (ax : c20_Ax cfgn cfgw T P W FR EL) : EvRel EL := ⟨ax.el_nil, ax.el_app⟩

theorem c20_R.rt {sn sw : State} (h : c20_R T P sn sw) (fl : Nat) : T (sn.rt fl) (sw.rt fl) := by
  unfold State.rt; split
  · exact h.rt0
  · exact h.rt1

theorem c20_R.setRt {sn sw : State} (h : c20_R T P sn sw) (fl : Nat) {t t' : Text} (ht : T t t') :
    c20_R T P (sn.setRt fl t) (sw.setRt fl t') := by
  unfold State.setRt; split
  · exact { h with rt0 := ht }
  · exact { h with rt1 := ht }

/-- `ax.pu` with the two (equal) settings spelled differently, for a word that need satisfy `W` only as far as it acts -/
theorem c20_pu (ax : c20_Ax cfgn cfgw T P W FR EL) {tn tw : Text} {setn setw : Settings} (hs : setn = setw)
    (id : TextId) (w eb ex pos : Nat) (ht : T tn tw) (hp : P setn) (hw : c20_WE W w eb ex) :
    T (parserUpdate cfgn setn tn id w eb ex pos).1 (parserUpdate cfgw setw tw id w eb ex pos).1 ∧
    FR (parserUpdate cfgn setn tn id w eb ex pos).2 (parserUpdate cfgw setw tw id w eb ex pos).2 := by
  subst hs
  obtain ⟨w', hw', e⟩ := hw
  rw [e, e]
  exact ax.pu setn id w' eb ex pos ht hp hw'

theorem c20_bufRel (ax : c20_Ax cfgn cfgw T P W FR EL) : BufRel (c20_R T P) EL where
  ev := ax.ev
  used := fun h => h.used
  temp := fun h => h.temp
  ext := fun h => congrArg Settings.ext h.set
  put := fun _ _ h => { h with used := rfl, temp := rfl }
  emitF := fun f h => ax.el_emit _ _ h (by cases f <;> rfl)
  emitAf := fun _ h => ax.el_emit _ _ h rfl

theorem c20_sim_upd (ax : c20_Ax cfgn cfgw T P W FR EL) {un uw : State → State} {fn fw : State → Bool} (c : Cb)
    (k : EvKind) (hk : c20_isText k = true)
    (hupd : ∀ sn sw, c20_R T P sn sw → c20_R T P (un sn) (uw sw) ∧ FR (fn sn) (fw sw)) :
    Sim (c20_R T P) EL (fun s => (un s, if fn s then emit (un s) c k else []))
      (fun s => (uw s, if fw s then emit (uw s) c k else [])) :=
  fun sn sw h => ⟨(hupd sn sw h).1, ax.el_text _ _ _ _ (hupd sn sw h).1 hk (hupd sn sw h).2⟩

theorem c20_sim_group2 (ax : c20_Ax cfgn cfgw T P W FR EL) (g : Group)
    (hw : (g.versionB = false → c20_WE W g.c g.eb g.ec) ∧ c20_WE W g.d g.eb g.ed) :
    Sim (c20_R T P) EL (fun s => group2 cfgn s g) (fun s => group2 cfgw s g) :=
  .group2 ax.ev g (fun _ _ h => h.lastRt) (fun _ _ h => ax.avail (h.rt _))
    (fun _ _ h => h.setRt _ (ax.cleared (h.rt _))) (fun _ _ v h => { h with lastRt := rfl })
    fun clr => c20_sim_upd ax .rt (.rt (g.b / 16 % 2)) rfl fun s2n s2w h => by
      have hu : T (g2u cfgn s2n g).2.1 (g2u cfgw s2w g).2.1 ∧
          FR (clr || (g2u cfgn s2n g).1.2 || (g2u cfgn s2n g).2.2) (clr || (g2u cfgw s2w g).1.2 || (g2u cfgw s2w g).2.2) := by
        unfold g2u
        cases hv : g.versionB
        · simp only [Bool.not_false, if_true]
          have hu1 := c20_pu ax h.set .rt g.c g.eb g.ec (4 * (g.b % 16)) (h.rt (g.b / 16 % 2)) h.pset (hw.1 hv)
          have hu2 := c20_pu ax h.set .rt g.d g.eb g.ed (4 * (g.b % 16) + 2) hu1.1 h.pset hw.2
          exact ⟨hu2.1, ax.fr_or (ax.fr_or (ax.fr_refl clr) hu1.2) hu2.2⟩
        · simp only [Bool.not_true, Bool.false_eq_true, if_false]
          have hu2 := c20_pu ax h.set .rt g.d g.eb g.ed (2 * (g.b % 16)) (h.rt (g.b / 16 % 2)) h.pset hw.2
          exact ⟨hu2.1, ax.fr_or (ax.fr_or (ax.fr_refl clr) (ax.fr_refl false)) hu2.2⟩
      exact ⟨h.setRt _ hu.1, hu.2⟩

theorem c20_leaves (ax : c20_Ax cfgn cfgw T P W FR EL) (g : Group) (hw : c20_GW W g) :
    Leaves (c20_R T P) EL (pieces cfgn g) (pieces cfgw g) g where
  ev := ax.ev
  sf := fun f v _ => (c20_bufRel ax).setField f v
  af := fun v _ => (c20_bufRel ax).addAf v
  cty := fun _ _ => (c20_bufRel ax).cty g fun _ _ => by unfold eccLookup; rw [ax.ecc]
  ps := fun h0 => c20_sim_upd ax .ps .ps rfl fun sn sw h =>
    have hu := c20_pu ax h.set .ps g.d g.eb g.ed (2 * (g.b % 4)) h.ps h.pset (hw.1 h0)
    ⟨{ h with ps := hu.1 }, hu.2⟩
  g2 := fun h2 => c20_sim_group2 ax g (hw.2.1 h2)
  g4 := fun _ => .group4 ax.ev g fun _ _ _ h => ax.el_emit _ _ h rfl
  g10 := fun h10 => .ite _ (fun hv => c20_sim_upd ax .ptyn .ptyn rfl fun sn sw h =>
      have hw' := hw.2.2 h10 (Eq.mp (Bool.not_eq_true' _) hv)
      have hu1 := c20_pu ax h.set .ptyn g.c g.eb g.ec (4 * (g.b % 2)) h.ptyn h.pset hw'.1
      have hu2 := c20_pu ax h.set .ptyn g.d g.eb g.ed (4 * (g.b % 2) + 2) hu1.1 h.pset hw'.2
      ⟨{ h with ptyn := hu2.1 }, ax.fr_or hu1.2 hu2.2⟩) fun _ => .id ax.ev

theorem c20_R_init (ax : c20_Ax cfgn cfgw T P W FR EL) : c20_R T P initState initState :=
  ⟨rfl, rfl, rfl, rfl, rfl, rfl, rfl, rfl, rfl, rfl, ax.init capPs, ax.init capRt, ax.init capRt, ax.init capPtyn,
    ax.p_init⟩

theorem c20_sim_step (ax : c20_Ax cfgn cfgw T P W FR EL) (sn sw : State) (h : c20_R T P sn sw) (op : Op)
    (hop : ∀ g, op.group? = some g → c20_GW W g) :
    c20_R T P (step cfgn sn op).1 (step cfgw sw op).1 ∧
    (step cfgn sn op).2.2 = (step cfgw sw op).2.2 ∧ EL (step cfgn sn op).2.1 (step cfgw sw op).2.1 := by
  refine Sim.step ax.ev op (fun g hg => (c20_leaves ax g (hop g hg)).sim) (c20_R_init ax)
    (fun sn sw h =>
      { h with
        used := rfl, temp := rfl, lastRt := rfl
        ps := ax.cleared h.ps, rt0 := ax.cleared h.rt0, rt1 := ax.cleared h.rt1, ptyn := ax.cleared h.ptyn })
    (fun sn sw h =>
      { h with
        set := congrArg op.onSet h.set, cbs := congrArg op.onCbs h.cbs, ud := congrArg op.onUd h.ud
        pset := ?_ }) sn sw h
  show P (op.onSet sn.set)
  cases op with
  | setExt v => exact ax.p_ext _ v h.pset
  | setCorr t k v => exact ax.p_corr _ t k v h.pset
  | setProg t v => exact ax.p_prog _ t v h.pset
  | _ => exact h.pset

theorem c20_run (ax : c20_Ax cfgn cfgw T P W FR EL) (ops : List Op)
    (hops : ∀ op ∈ ops, ∀ g, op.group? = some g → c20_GW W g) :
    c20_R T P (run cfgn ops) (run cfgw ops) :=
  Sim.runFrom ops (fun op ho sn sw h => (c20_sim_step ax sn sw h op (hops op ho)).1) _ _ (c20_R_init ax)

end generic

end RDS
