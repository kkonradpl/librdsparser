import RdsProofs.CellsProofs
import RdsProofs.LinkProofs
/-!
# RdsProofs.C05Proofs — index safety of the model (the logic part of C05)

`updateSingle` has an explicit out-of-range outcome `Store.oob`, but `updateString` / `parserUpdate` / `process`
throw the `Store` results away. `ac5_processS` is an instrumented mirror of `process`: it computes the same
(`ac5_process_mirror`) and in addition returns, in call order,
* the `Store` outcome of every `updateSingle` call (`ac5_processStores`);
* the index of every AF-bitmap access (`af->buffer[v / 8]`, bit `v % 8`) that `rdsparser_af_get` / `rdsparser_af_set`
  make behind their range check (`ac5_processAfIdx`).
Neither `C05_no_oob_process` nor `C05_af_index_process` needs a contract on the tables.
-/
namespace RDS

/-- `updateSingle` reports out-of-range exactly when the index is outside the buffer, and then changes nothing -/
theorem C05_oob_iff (cfg : Cfg) (t : Text) (b ei ed pos : Nat) (prog : Bool) :
    ((updateSingle cfg t b ei ed pos prog).2 = Store.oob ↔ t.length ≤ pos) ∧
    (t.length ≤ pos → (updateSingle cfg t b ei ed pos prog).1 = t) := by
  rw [updateSingle_eq, ← List.getElem?_eq_none_iff]
  cases t[pos]? with
  | none => exact ⟨⟨fun _ => rfl, fun _ => rfl⟩, fun _ => rfl⟩
  | some c =>
    refine ⟨⟨fun h => ?_, fun h => nomatch h⟩, fun h => nomatch h⟩
    simp only [] at h
    split at h <;> cases h

/-- AF bitmap index is inside the 26-byte bitmap for every accepted code -/
theorem C05_af_index (v : Nat) (h : afValid v = true) : v < afBits ∧ v / 8 < 26 := by
  simp only [afValid, Bool.and_eq_true, decide_eq_true_eq] at h
  simp only [afBits]
  omega

theorem C05_length (cfg : Cfg) (t : Text) (b ei ed pos : Nat) (prog : Bool) :
    (updateSingle cfg t b ei ed pos prog).1.length = t.length :=
  updateSingle_length cfg t b ei ed pos prog

#print axioms C05_oob_iff
#print axioms C05_af_index
#print axioms C05_length

/-- `updateString`, also returning the outcome of its two `updateSingle` calls -/
def ac5_updateStringS (cfg : Cfg) (t : Text) (w ei ed pos : Nat) (prog : Bool) : (Text × Bool) × List Store :=
  let r1 := updateSingle cfg t (w / 256 % 256) ei ed pos prog
  let r2 := updateSingle cfg r1.1 (w % 256) ei ed (pos + 1) prog
  ((r2.1, r1.2 == .stored || r2.2 == .stored), [r1.2, r2.2])

/-- `parserUpdate`, also returning the outcomes of the `updateSingle` calls it makes -/
def ac5_parserUpdateS (cfg : Cfg) (set : Settings) (t : Text) (id : TextId) (w eb ex pos : Nat) :
    (Text × Bool) × List Store :=
  if eb ≤ set.corr id .info && ex ≤ set.corr id .data then
    ac5_updateStringS cfg t w eb ex pos (set.prog id)
  else ((t, false), [])

theorem ac5_updateStringS_fst (cfg : Cfg) (t : Text) (w ei ed pos : Nat) (prog : Bool) :
    (ac5_updateStringS cfg t w ei ed pos prog).1 = updateString cfg t w ei ed pos prog := rfl

theorem ac5_parserUpdateS_fst (cfg : Cfg) (set : Settings) (t : Text) (id : TextId) (w eb ex pos : Nat) :
    (ac5_parserUpdateS cfg set t id w eb ex pos).1 = parserUpdate cfg set t id w eb ex pos := by
  unfold ac5_parserUpdateS parserUpdate
  split <;> rfl

/-- the recorded outcomes are the ones the library acts on: the "changed" flag of a block is "some call stored" -/
theorem ac5_parserUpdateS_flag (cfg : Cfg) (set : Settings) (t : Text) (id : TextId) (w eb ex pos : Nat) :
    (parserUpdate cfg set t id w eb ex pos).2 =
      (ac5_parserUpdateS cfg set t id w eb ex pos).2.any (· == .stored) := by
  unfold ac5_parserUpdateS parserUpdate
  split
  · simp [ac5_updateStringS, updateString]
  · rfl

theorem ac5_parserUpdateS_no_oob {cfg : Cfg} {set : Settings} {t : Text} {id : TextId} {w eb ex pos : Nat}
    (hp : pos + 1 < t.length) : Store.oob ∉ (ac5_parserUpdateS cfg set t id w eb ex pos).2 := by
  unfold ac5_parserUpdateS
  split
  · unfold ac5_updateStringS
    simp only [List.mem_cons, List.not_mem_nil, or_false, not_or]
    constructor
    · intro h
      have := ((C05_oob_iff cfg t (w / 256 % 256) eb ex pos (set.prog id)).1.1 h.symm)
      omega
    · intro h
      have := ((C05_oob_iff cfg _ (w % 256) eb ex (pos + 1) (set.prog id)).1.1 h.symm)
      rw [updateSingle_length] at this
      omega
  · simp

/-- `rdsparser_af_get`: result and the bitmap index it reads (none when the range check fails) -/
def ac5_afGetI (af : List Bool) (v : Nat) : Bool × List Nat :=
  if afValid v then (af.getD v false, [v]) else (false, [])

/-- `rdsparser_af_set`: result and the bitmap index it writes (none when the range check fails) -/
def ac5_afSetI (af : List Bool) (v : Nat) : (List Bool × Bool) × List Nat :=
  if afValid v then ((af.set v true, true), [v]) else ((af, false), [])

theorem ac5_afGetI_fst (af : List Bool) (v : Nat) : (ac5_afGetI af v).1 = afGet af v := by
  unfold ac5_afGetI afGet
  cases afValid v <;> rfl

theorem ac5_afSetI_fst (af : List Bool) (v : Nat) : (ac5_afSetI af v).1 = afSet af v := by
  unfold ac5_afSetI afSet
  split <;> rfl

theorem ac5_afGetI_idx {af : List Bool} {v w : Nat} (h : w ∈ (ac5_afGetI af v).2) : afValid w = true := by
  unfold ac5_afGetI at h
  split at h
  · simp only [List.mem_cons, List.not_mem_nil, or_false] at h; subst h; assumption
  · simp at h

theorem ac5_afSetI_idx {af : List Bool} {v w : Nat} (h : w ∈ (ac5_afSetI af v).2) : afValid w = true := by
  unfold ac5_afSetI at h
  split at h
  · simp only [List.mem_cons, List.not_mem_nil, or_false] at h; subst h; assumption
  · simp at h

/-- `rdsparser_add_af` + `rdsparser_buffer_add_af`, also returning the bitmap indices accessed, in C evaluation
order (`data_temp` is consulted only under the extended check: `&&` short-circuits) -/
def ac5_addAfS (s : State) (v : Nat) : (State × List Event) × List Nat :=
  let g1 := ac5_afGetI s.used.af v
  if g1.1 then ((s, []), g1.2)
  else
    let g2 := if s.set.ext then ac5_afGetI s.temp.af v else (false, [])
    if s.set.ext && !g2.1 then
      let w := ac5_afSetI s.temp.af v
      (({ s with temp := { s.temp with af := w.1.1 } }, []), g1.2 ++ g2.2 ++ w.2)
    else
      let w := ac5_afSetI s.used.af v
      let s' := { s with used := { s.used with af := w.1.1 } }
      ((s', if w.1.2 then emit s' .af (.af (87500 + v * 100)) else []), g1.2 ++ g2.2 ++ w.2)

theorem ac5_addAfS_fst (s : State) (v : Nat) : (ac5_addAfS s v).1 = addAf s v := by
  -- `data_temp` is consulted only under the extended check; without it the second test is false anyway
  have hc : (s.set.ext && !(if s.set.ext = true then ac5_afGetI s.temp.af v else (false, [])).1) =
      (s.set.ext && !afGet s.temp.af v) := by
    cases s.set.ext
    · rfl
    · rw [if_pos rfl, ac5_afGetI_fst]
  unfold ac5_addAfS
  simp only []
  rw [hc, ac5_afGetI_fst]
  by_cases h1 : afGet s.used.af v = true
  · rw [if_pos h1, addAf_known s v h1]
  · by_cases h2 : (s.set.ext && !afGet s.temp.af v) = true
    · rw [if_neg h1, if_pos h2, addAf_candidate s v h1 h2, ac5_afSetI_fst]
    · rw [if_neg h1, if_neg h2, addAf_listed s v h1 h2, ac5_afSetI_fst]

theorem ac5_addAfS_idx {s : State} {v w : Nat} (h : w ∈ (ac5_addAfS s v).2) : afValid w = true := by
  have hg2 : w ∈ (if s.set.ext = true then ac5_afGetI s.temp.af v else (false, [])).2 → afValid w = true := by
    intro h2
    split at h2
    · exact ac5_afGetI_idx h2
    · simp at h2
  unfold ac5_addAfS at h
  simp only at h
  by_cases c1 : (ac5_afGetI s.used.af v).1 = true
  · rw [if_pos c1] at h
    exact ac5_afGetI_idx h
  · rw [if_neg c1] at h
    by_cases c2 : (s.set.ext && !(if s.set.ext = true then ac5_afGetI s.temp.af v else (false, [])).1) = true
    · rw [if_pos c2] at h
      simp only [List.mem_append] at h
      rcases h with (h | h) | h
      · exact ac5_afGetI_idx h
      · exact hg2 h
      · exact ac5_afSetI_idx h
    · rw [if_neg c2] at h
      simp only [List.mem_append] at h
      rcases h with (h | h) | h
      · exact ac5_afGetI_idx h
      · exact hg2 h
      · exact ac5_afSetI_idx h

def ac5_group0S (cfg : Cfg) (s : State) (g : Group) : (State × List Event) × (List Store × List Nat) :=
  let r1 := if g.eb = 0 then
      let a := setField s .ta (g.b / 16 % 2 : Nat)
      let b := setField a.1 .ms (g.b / 8 % 2 : Nat)
      (b.1, a.2 ++ b.2)
    else (s, [])
  let u := ac5_parserUpdateS cfg r1.1.set r1.1.ps .ps g.d g.eb g.ed (2 * (g.b % 4))
  let s2 := { r1.1 with ps := u.1.1 }
  let e2 := if u.1.2 then emit s2 .ps .ps else []
  if !g.versionB && g.eb = 0 && g.ec = 0 && g.c / 256 % 256 != 250 then
    let a1 := ac5_addAfS s2 (g.c / 256 % 256)
    let a2 := ac5_addAfS a1.1.1 (g.c % 256)
    ((a2.1.1, r1.2 ++ e2 ++ a1.1.2 ++ a2.1.2), (u.2, a1.2 ++ a2.2))
  else ((s2, r1.2 ++ e2), (u.2, []))

def ac5_group2S (cfg : Cfg) (s : State) (g : Group) : (State × List Event) × (List Store × List Nat) :=
  let flag := g.b / 16 % 2
  let pos := g.b % 16
  let sw := g.eb = 0 && ((flag : Int) != s.lastRt)
  let clr := sw && s.lastRt != -1 && getAvailable (s.rt flag)
  let s1 := if clr then s.setRt flag (s.rt flag).cleared else s
  let s2 := if sw then { s1 with lastRt := flag } else s1
  if g.eb != 0 && (flag : Int) != s2.lastRt && s2.lastRt != -1 then ((s2, []), ([], []))
  else
    let u1 := if !g.versionB
      then ac5_parserUpdateS cfg s2.set (s2.rt flag) .rt g.c g.eb g.ec (4 * pos)
      else ((s2.rt flag, false), [])
    let pos2 := if !g.versionB then 4 * pos + 2 else 2 * pos
    let u2 := ac5_parserUpdateS cfg s2.set u1.1.1 .rt g.d g.eb g.ed pos2
    let s3 := s2.setRt flag u2.1.1
    ((s3, if clr || u1.1.2 || u2.1.2 then emit s3 .rt (.rt flag) else []), (u1.2 ++ u2.2, []))

def ac5_group10S (cfg : Cfg) (s : State) (g : Group) : (State × List Event) × (List Store × List Nat) :=
  if !g.versionB then
    let pos := 4 * (g.b % 2)
    let u1 := ac5_parserUpdateS cfg s.set s.ptyn .ptyn g.c g.eb g.ec pos
    let u2 := ac5_parserUpdateS cfg s.set u1.1.1 .ptyn g.d g.eb g.ed (pos + 2)
    let s' := { s with ptyn := u2.1.1 }
    ((s', if u1.1.2 || u2.1.2 then emit s' .ptyn .ptyn else []), (u1.2 ++ u2.2, []))
  else ((s, []), ([], []))

/-- `group1` and `group4` touch neither a text nor an AF bitmap -/
def ac5_dispatchS (cfg : Cfg) (s : State) (g : Group) : (State × List Event) × (List Store × List Nat) :=
  if g.type = 0 then ac5_group0S cfg s g
  else if g.type = 1 then (group1 cfg s g, ([], []))
  else if g.type = 2 then ac5_group2S cfg s g
  else if g.type = 4 then (group4 s g, ([], []))
  else if g.type = 10 then ac5_group10S cfg s g
  else ((s, []), ([], []))

/-- `groupCommon` touches neither a text nor an AF bitmap -/
def ac5_processS (cfg : Cfg) (s : State) (g : Group) : (State × List Event) × (List Store × List Nat) :=
  let r1 := groupCommon s g
  let r2 := ac5_dispatchS cfg r1.1 g
  ((r2.1.1, r1.2 ++ r2.1.2), r2.2)

def ac5_processStores (cfg : Cfg) (s : State) (g : Group) : List Store := (ac5_processS cfg s g).2.1

def ac5_processAfIdx (cfg : Cfg) (s : State) (g : Group) : List Nat := (ac5_processS cfg s g).2.2

theorem ac5_group0S_fst (cfg : Cfg) (s : State) (g : Group) : (ac5_group0S cfg s g).1 = group0 cfg s g := by
  unfold ac5_group0S group0
  simp only [ac5_parserUpdateS_fst, ac5_addAfS_fst, apply_ite Prod.fst]

theorem ac5_group2S_fst (cfg : Cfg) (s : State) (g : Group) : (ac5_group2S cfg s g).1 = group2 cfg s g := by
  unfold ac5_group2S group2
  simp only [ac5_parserUpdateS_fst, apply_ite Prod.fst]

theorem ac5_group10S_fst (cfg : Cfg) (s : State) (g : Group) : (ac5_group10S cfg s g).1 = group10 cfg s g := by
  unfold ac5_group10S group10
  simp only [ac5_parserUpdateS_fst, apply_ite Prod.fst]

theorem ac5_dispatchS_cases {P : (State × List Event) × (List Store × List Nat) → Prop} (cfg : Cfg) (s : State)
    (g : Group) (h0 : P (ac5_group0S cfg s g)) (h1 : P (group1 cfg s g, ([], [])))
    (h2 : P (ac5_group2S cfg s g)) (h4 : P (group4 s g, ([], []))) (h10 : P (ac5_group10S cfg s g))
    (hn : P ((s, []), ([], []))) : P (ac5_dispatchS cfg s g) := by
  unfold ac5_dispatchS
  by_cases c0 : g.type = 0; · rw [if_pos c0]; exact h0
  by_cases c1 : g.type = 1; · rw [if_neg c0, if_pos c1]; exact h1
  by_cases c2 : g.type = 2; · rw [if_neg c0, if_neg c1, if_pos c2]; exact h2
  by_cases c4 : g.type = 4; · rw [if_neg c0, if_neg c1, if_neg c2, if_pos c4]; exact h4
  by_cases c10 : g.type = 10; · rw [if_neg c0, if_neg c1, if_neg c2, if_neg c4, if_pos c10]; exact h10
  rw [if_neg c0, if_neg c1, if_neg c2, if_neg c4, if_neg c10]; exact hn

theorem ac5_dispatchS_fst (cfg : Cfg) (s : State) (g : Group) : (ac5_dispatchS cfg s g).1 = dispatch cfg s g := by
  unfold ac5_dispatchS dispatch
  rw [← ac5_group0S_fst, ← ac5_group2S_fst, ← ac5_group10S_fst]
  simp only [apply_ite Prod.fst]

theorem ac5_process_mirror (cfg : Cfg) (s : State) (g : Group) : (ac5_processS cfg s g).1 = process cfg s g := by
  unfold ac5_processS process
  simp only [ac5_dispatchS_fst]

theorem ac5_group0S_no_oob (cfg : Cfg) (s : State) (g : Group) (h : s.ps.length = capPs) :
    Store.oob ∉ (ac5_group0S cfg s g).2.1 := by
  have e : (ac5_group0S cfg s g).2.1 =
      (ac5_parserUpdateS cfg (g0r1 s g).1.set (g0r1 s g).1.ps .ps g.d g.eb g.ed (2 * (g.b % 4))).2 := by
    unfold ac5_group0S
    extract_lets
    split <;> rfl
  have hps : (g0r1 s g).1.ps = s.ps := (congrArg State.ps (g0r1_noBuf s g) :)
  rw [e]
  exact ac5_parserUpdateS_no_oob (by rw [hps, h]; exact (C05_positions g.b).1)

theorem ac5_group2S_no_oob (cfg : Cfg) (s : State) (g : Group) (h0 : s.rt0.length = capRt)
    (h1 : s.rt1.length = capRt) : Store.oob ∉ (ac5_group2S cfg s g).2.1 := by
  unfold ac5_group2S
  extract_lets flag pos sw clr s1 s2 u1 pos2 u2 s3
  obtain ⟨_, hA, hB, _⟩ := C05_positions g.b
  have hrt : (s.rt flag).length = capRt := by unfold State.rt; split <;> assumption
  have hs2 : (s2.rt flag).length = capRt := by
    show ((g2s2 s g).rt _).length = _
    rw [g2s2_rt_same]
    split
    · rw [cleared_length]; exact hrt
    · exact hrt
  have hu1 : Store.oob ∉ u1.2 ∧ u1.1.1.length = capRt := by
    unfold u1
    split
    · exact ⟨ac5_parserUpdateS_no_oob
          (hs2 ▸ Nat.lt_of_le_of_lt (Nat.add_le_add_left (by decide) _) hA),
        by rw [ac5_parserUpdateS_fst, parserUpdate_length]; exact hs2⟩
    · exact ⟨List.not_mem_nil, hs2⟩
  have hu2 : Store.oob ∉ u2.2 := by
    refine ac5_parserUpdateS_no_oob ?_
    rw [hu1.2]
    unfold pos2
    split
    · exact hA
    · exact hB
  -- with the updates opaque the last case distinction is over a small term
  clear_value u2 u1 s3 s2
  split
  · exact List.not_mem_nil
  · exact fun h => (List.mem_append.mp h).elim hu1.1 hu2

theorem ac5_group10S_no_oob (cfg : Cfg) (s : State) (g : Group) (h : s.ptyn.length = capPtyn) :
    Store.oob ∉ (ac5_group10S cfg s g).2.1 := by
  have hp := (C05_positions g.b).2.2.2
  unfold ac5_group10S
  split
  · extract_lets pos u1 u2 s'
    have hu1 : Store.oob ∉ u1.2 :=
      ac5_parserUpdateS_no_oob (h ▸ Nat.lt_of_le_of_lt (Nat.add_le_add_left (by decide) _) hp)
    have hu2 : Store.oob ∉ u2.2 :=
      ac5_parserUpdateS_no_oob (by rw [ac5_parserUpdateS_fst, parserUpdate_length, h]; exact hp)
    exact fun h => (List.mem_append.mp h).elim hu1 hu2
  · exact List.not_mem_nil

theorem ac5_dispatchS_no_oob (cfg : Cfg) (s : State) (g : Group) (h : Lens s) :
    Store.oob ∉ (ac5_dispatchS cfg s g).2.1 := by
  obtain ⟨hps, hrt0, hrt1, hptyn⟩ := h
  exact ac5_dispatchS_cases (P := fun r => Store.oob ∉ r.2.1) cfg s g (ac5_group0S_no_oob cfg s g hps)
    List.not_mem_nil (ac5_group2S_no_oob cfg s g hrt0 hrt1) List.not_mem_nil
    (ac5_group10S_no_oob cfg s g hptyn) List.not_mem_nil

theorem ac5_no_oob_of_lens (cfg : Cfg) (s : State) (g : Group) (h : Lens s) :
    Store.oob ∉ ac5_processStores cfg s g := by
  unfold ac5_processStores ac5_processS
  exact ac5_dispatchS_no_oob cfg _ g ((congrArg Lens (groupCommon_noBuf s g) :).mpr h)

/-- **C05 (out-of-range outcome unreachable).** On every reachable state and for every group (arbitrary natural
fields), no `updateSingle` call of `process` reports `Store.oob`: the index that would be undefined behaviour in
`rdsparser_string_update_single` does not occur. -/
theorem C05_no_oob_process (cfg : Cfg) (ops : List Op) (g : Group) :
    Store.oob ∉ ac5_processStores cfg (run cfg ops) g :=
  ac5_no_oob_of_lens cfg _ g (lens_run cfg ops)

/-- narrow build, identity charset, no countries -/
def ac5_cfg0 : Cfg := ⟨false, fun b => b, fun _ _ => 0⟩

/-- non-vacuity: after a 0A group, a 2A group addressed to the LAST four RT cells (60..63) makes four `updateSingle`
calls, all of which store -/
example :
    ac5_processStores ac5_cfg0 (run ac5_cfg0 [.parse ⟨0x1234, 0x0401, 0xE0CD, 0x4142, 0, 0, 0, 0⟩])
      ⟨0x1234, 0x200F, 0x4142, 0x4344, 0, 0, 0, 0⟩ = [.stored, .stored, .stored, .stored] := by decide

/-- non-vacuity: garbage fields far outside the C ranges still give only in-range outcomes -/
example :
    ac5_processStores ac5_cfg0 (run ac5_cfg0 [])
      ⟨10 ^ 30, 65536 * 10 ^ 30 + 2 * 4096 + 31, 7 ^ 40, 256 * 10 ^ 20 + 13, 0, 0, 0, 0⟩ =
      [.stored, .stored, .rejected, .stored] := by decide

def ac5_stepStores (cfg : Cfg) (s : State) (op : Op) : List Store :=
  match op.group? with
  | some g => ac5_processStores cfg s g
  | none => []

/-- C05 for every history and every next API call (binary or hex-string delivery alike) -/
theorem C05_no_oob_step (cfg : Cfg) (ops : List Op) (op : Op) :
    Store.oob ∉ ac5_stepStores cfg (run cfg ops) op := by
  unfold ac5_stepStores
  split
  · exact C05_no_oob_process cfg ops _
  · simp

theorem ac5_group0S_afIdx (cfg : Cfg) (s : State) (g : Group) :
    ∀ v ∈ (ac5_group0S cfg s g).2.2, afValid v = true := by
  intro v hv
  unfold ac5_group0S at hv
  extract_lets at hv
  split at hv
  · rcases List.mem_append.mp hv with hv | hv <;> exact ac5_addAfS_idx hv
  · cases hv

theorem ac5_group2S_afIdx (cfg : Cfg) (s : State) (g : Group) : (ac5_group2S cfg s g).2.2 = [] := by
  unfold ac5_group2S
  extract_lets
  split <;> rfl

theorem ac5_group10S_afIdx (cfg : Cfg) (s : State) (g : Group) : (ac5_group10S cfg s g).2.2 = [] := by
  unfold ac5_group10S
  split <;> rfl

/-- on ANY state: every access is behind the range check -/
theorem ac5_processAfIdx_valid (cfg : Cfg) (s : State) (g : Group) :
    ∀ v ∈ ac5_processAfIdx cfg s g, afValid v = true :=
  ac5_dispatchS_cases (P := fun r => ∀ v ∈ r.2.2, afValid v = true) cfg _ g (ac5_group0S_afIdx cfg _ g)
    (fun _ h => nomatch h) (fun _ h => by rw [ac5_group2S_afIdx] at h; cases h) (fun _ h => nomatch h)
    (fun _ h => by rw [ac5_group10S_afIdx] at h; cases h) (fun _ h => nomatch h)

/-- **C05 (AF bitmap).** Each AF-bitmap access (`af->buffer[v / 8]`) that `process` makes on a reachable state uses a
code that passed the range check 1..204, so the byte index is below 26 (`RDSPARSER_AF_BUFFER_SIZE`), and `v` is inside
both bitmaps of the model (`List.set` / `List.getD` never fall off the end). -/
theorem C05_af_index_process (cfg : Cfg) (ops : List Op) (g : Group) :
    ∀ v ∈ ac5_processAfIdx cfg (run cfg ops) g,
      afValid v = true ∧ v / 8 < 26 ∧ v < (run cfg ops).used.af.length ∧ v < (run cfg ops).temp.af.length := by
  intro v hv
  have hval := ac5_processAfIdx_valid cfg _ g v hv
  obtain ⟨h1, h2⟩ := C05_af_index v hval
  have hl := linkL_run cfg ops
  exact ⟨hval, h2, hl.usedLen ▸ h1, hl.tempLen ▸ h1⟩

theorem ac5_afSet_writes_valid (af : List Bool) (v : Nat) (h : (afSet af v).1 ≠ af) : afValid v = true ∧ v / 8 < 26 := by
  unfold afSet at h
  split at h
  · rename_i hv; exact ⟨hv, (C05_af_index v hv).2⟩
  · exact absurd rfl h

/-- non-vacuity: a 0A group with two AF codes under the extended check reads `used`, reads `temp`, writes `temp`
for each of the two codes (six accesses) -/
example :
    ac5_processAfIdx ac5_cfg0 (run ac5_cfg0 [.setExt true]) ⟨0x1234, 0x0401, 0x0A14, 0x4142, 0, 0, 0, 0⟩ =
      [10, 10, 10, 20, 20, 20] := by decide

/-- code 205 is refused without any access; code 1, without the extended check, is read and written in `used` -/
example :
    ac5_processAfIdx ac5_cfg0 (run ac5_cfg0 []) ⟨0x1234, 0x0401, 0xCD01, 0x4142, 0, 0, 0, 0⟩ = [1, 1] := by decide

end RDS
