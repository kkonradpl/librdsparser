import RdsProofs.CellsSingle
import RdsProofs.CellsAddressed
/-!
# RdsProofs.CellsExpected — `expectedText` in terms of `parserUpdate`
-/
namespace RDS

/-- the cell-wise closed form used by `expectedText`, with its inputs made explicit -/
def expCells (cfg : Cfg) (set : Settings) (tid : TextId) (eb : Nat) (old : Text)
    (addr : List (Nat × Nat × Nat × Nat)) : Text :=
  (List.range old.length).map fun i =>
    match addr.find? (fun a => a.2.1 = i) with
    | some (_, _, b, ex) =>
      cellSpec cfg (set.corr tid .info) (set.corr tid .data) (set.prog tid) (old.getD i blank) b eb ex
    | none => old.getD i blank

theorem expectedText_eq (cfg : Cfg) (m : Mon) (before : Obs) (g : Group) (t : Nat) :
    expectedText cfg m before g t =
      expCells cfg before.set (textIdOf t) g.eb
        (if switchDiscard m before g && t = 1 + g.b / 16 % 2 then (before.text t).cells.cleared
          else (before.text t).cells)
        (if rtNoisy m g then [] else (addressed g).filter (fun a => a.1 = t)) := rfl

theorem expCells_length (cfg : Cfg) (set : Settings) (tid : TextId) (eb : Nat) (old : Text)
    (addr : List (Nat × Nat × Nat × Nat)) : (expCells cfg set tid eb old addr).length = old.length := by
  simp [expCells]

theorem expCells_getD {cfg : Cfg} {set : Settings} {tid : TextId} {eb : Nat} {old : Text}
    {addr : List (Nat × Nat × Nat × Nat)} {i : Nat} (hi : i < old.length) :
    (expCells cfg set tid eb old addr).getD i blank =
      match addr.find? (fun a => a.2.1 = i) with
      | some (_, _, b, ex) =>
        cellSpec cfg (set.corr tid .info) (set.corr tid .data) (set.prog tid) (old.getD i blank) b eb ex
      | none => old.getD i blank := by
  rw [getD_lt _ i (by rw [expCells_length]; exact hi)]
  simp only [expCells, List.getElem_map, List.getElem_range]

theorem eq_expCells {cfg : Cfg} {set : Settings} {tid : TextId} {eb : Nat} {new old : Text}
    {addr : List (Nat × Nat × Nat × Nat)} (hlen : new.length = old.length)
    (h : ∀ i, i < old.length → new.getD i blank =
      match addr.find? (fun a => a.2.1 = i) with
      | some (_, _, b, ex) =>
        cellSpec cfg (set.corr tid .info) (set.corr tid .data) (set.prog tid) (old.getD i blank) b eb ex
      | none => old.getD i blank) :
    new = expCells cfg set tid eb old addr := by
  apply List.ext_getElem (by rw [expCells_length, hlen])
  intro i h1 h2
  rw [← getD_lt new i h1, ← getD_lt _ i h2, h i (hlen ▸ h1), expCells_getD (hlen ▸ h1)]

theorem range_map_getD (l : Text) : (List.range l.length).map (fun i => l.getD i blank) = l := by
  apply List.ext_getElem (by simp)
  intro i h1 h2
  rw [List.getElem_map, List.getElem_range, getD_lt]

theorem expCells_nil (cfg : Cfg) (set : Settings) (tid : TextId) (eb : Nat) (old : Text) :
    expCells cfg set tid eb old [] = old :=
  range_map_getD old

/-- one block: no hypothesis on `p`, since beyond the text neither side does anything -/
theorem expCells_two (cfg : Cfg) (set : Settings) (tid : TextId) (eb : Nat) (old : Text) (t p w ex : Nat) :
    expCells cfg set tid eb old (blockCells t p w ex) = (parserUpdate cfg set old tid w eb ex p).1 := by
  refine (eq_expCells (parserUpdate_length ..) fun i hi => ?_).symm
  rw [List.getD_eq_getElem?_getD, parserUpdate_getElem?, List.getElem?_eq_getElem hi,
    ← getD_lt (d := blank) old i hi]
  unfold cellUpd blockCells
  by_cases h0 : i = p
  · subst h0; simp [List.find?]
  · by_cases h1 : i = p + 1
    · subst h1; simp [List.find?]
    · simp [List.find?, h0, h1, Ne.symm h0, Ne.symm h1]

theorem expCells_append (cfg : Cfg) (set : Settings) (tid : TextId) (eb : Nat) (old : Text)
    (A B : List (Nat × Nat × Nat × Nat)) (hd : ∀ a ∈ A, ∀ b ∈ B, a.2.1 ≠ b.2.1) :
    expCells cfg set tid eb old (A ++ B) = expCells cfg set tid eb (expCells cfg set tid eb old A) B := by
  refine (eq_expCells (by rw [expCells_length, expCells_length]) fun i hi => ?_).symm
  rw [expCells_getD (by rw [expCells_length]; exact hi), expCells_getD hi,
    List.find?_append]
  cases hA : A.find? (fun a => a.2.1 = i) with
  | none => rfl
  | some a =>
    have ha : a.2.1 = i := by simpa using List.find?_some hA
    have hB : B.find? (fun b => b.2.1 = i) = none := List.find?_eq_none.mpr fun b hb h =>
      hd a (List.mem_of_find?_eq_some hA) b hb (ha.trans (of_decide_eq_true h).symm)
    rw [hB]; rfl

theorem expCells_four (cfg : Cfg) (set : Settings) (tid : TextId) (eb : Nat) (old : Text)
    (t p w ex w' ex' : Nat) :
    expCells cfg set tid eb old (blockCells t p w ex ++ blockCells t (p + 2) w' ex') =
      (parserUpdate cfg set (parserUpdate cfg set old tid w eb ex p).1 tid w' eb ex' (p + 2)).1 := by
  rw [expCells_append, expCells_two, expCells_two]
  intro a ha b hb
  have := (mem_blockCells ha).2
  have := (mem_blockCells hb).2
  omega

end RDS
