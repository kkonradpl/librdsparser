import RdsProofs.Sim
import RdsProofs.Toy
/-!
# C09: texts and clock time do not depend on the extended check

Two states with the same `textView` are taken by any call to states with the same view, with the same result and the
same text / clock-time callbacks, each passed the same user data and seeing the same view (`ac09_proj_step`). A group
is two runs of the decoder's pieces from the same view (`ac09_leaves`, lifted by `Leaves.sim`). Along two op lists that
differ only in the values written by `rdsparser_set_extended_check` this holds call by call (`C09_text_indep_trace`).
-/
namespace RDS

/-- the part of a state that text decoding and clock time depend on and produce: the four texts, the last RT flag,
all settings except the extended-check flag, the registrations and the user data -/
def textView (s : State) : Text × Text × Text × Text × Int × (Bool × Bool × Bool × Nat × Nat × Nat × Nat × Nat × Nat) × List Bool × Nat :=
  (s.ps, s.rt0, s.rt1, s.ptyn, s.lastRt,
   (s.set.progPs, s.set.progRt, s.set.progPtyn, s.set.psInfo, s.set.psData, s.set.rtInfo, s.set.rtData, s.set.ptynInfo, s.set.ptynData),
   s.cbs, s.ud)

/-- kinds (with their arguments) of the text and clock-time callbacks, in order -/
def textKinds (evs : List Event) : List EvKind :=
  (evs.map (·.kind)).filter (fun k => match k with | .ps | .rt _ | .ptyn | .ct _ => true | _ => false)

/-- op lists that differ only in the values written by `rdsparser_set_extended_check` -/
inductive ExtRel : List Op → List Op → Prop
  | nil : ExtRel [] []
  | same (op : Op) {a b : List Op} : ExtRel a b → ExtRel (op :: a) (op :: b)
  | ext (v w : Bool) {a b : List Op} : ExtRel a b → ExtRel (.setExt v :: a) (.setExt w :: b)

/-- `textView` equality, field by field -/
structure ex_TV (s1 s2 : State) : Prop where
  ps : s1.ps = s2.ps
  rt0 : s1.rt0 = s2.rt0
  rt1 : s1.rt1 = s2.rt1
  ptyn : s1.ptyn = s2.ptyn
  lastRt : s1.lastRt = s2.lastRt
  progPs : s1.set.progPs = s2.set.progPs
  progRt : s1.set.progRt = s2.set.progRt
  progPtyn : s1.set.progPtyn = s2.set.progPtyn
  psInfo : s1.set.psInfo = s2.set.psInfo
  psData : s1.set.psData = s2.set.psData
  rtInfo : s1.set.rtInfo = s2.set.rtInfo
  rtData : s1.set.rtData = s2.set.rtData
  ptynInfo : s1.set.ptynInfo = s2.set.ptynInfo
  ptynData : s1.set.ptynData = s2.set.ptynData
  cbs : s1.cbs = s2.cbs
  ud : s1.ud = s2.ud

theorem ex_tv_of {s1 s2 : State} (h : textView s1 = textView s2) : ex_TV s1 s2 := by
  simp only [textView, Prod.mk.injEq] at h
  obtain ⟨a, b, c, d, e, ⟨f1, f2, f3, f4, f5, f6, f7, f8, f9⟩, g, i⟩ := h
  exact ⟨a, b, c, d, e, f1, f2, f3, f4, f5, f6, f7, f8, f9, g, i⟩

theorem ex_TV.view {s1 s2 : State} (h : ex_TV s1 s2) : textView s1 = textView s2 := by
  unfold textView
  rw [h.ps, h.rt0, h.rt1, h.ptyn, h.lastRt, h.progPs, h.progRt, h.progPtyn, h.psInfo, h.psData, h.rtInfo,
    h.rtData, h.ptynInfo, h.ptynData, h.cbs, h.ud]

theorem ex_TV.corr {s1 s2 : State} (h : ex_TV s1 s2) (id : TextId) (k : BlockType) :
    s1.set.corr id k = s2.set.corr id k := by
  cases id <;> cases k
  · exact h.psInfo
  · exact h.psData
  · exact h.rtInfo
  · exact h.rtData
  · exact h.ptynInfo
  · exact h.ptynData

theorem ex_TV.prog {s1 s2 : State} (h : ex_TV s1 s2) (id : TextId) : s1.set.prog id = s2.set.prog id := by
  cases id
  · exact h.progPs
  · exact h.progRt
  · exact h.progPtyn

theorem ex_TV.rt {s1 s2 : State} (h : ex_TV s1 s2) (fl : Nat) : s1.rt fl = s2.rt fl := by
  unfold State.rt; split
  · exact h.rt0
  · exact h.rt1

theorem ex_TV.setRt {s1 s2 : State} (h : ex_TV s1 s2) (fl : Nat) {t1 t2 : Text} (ht : t1 = t2) :
    ex_TV (s1.setRt fl t1) (s2.setRt fl t2) := by
  unfold State.setRt; split
  · exact { h with rt0 := ht }
  · exact { h with rt1 := ht }

theorem ex_TV.of_set {s1 s2 : State} (h : ex_TV s1 s2) {x1 x2 : Settings} (hp : ∀ id, x1.prog id = x2.prog id)
    (hc : ∀ id k, x1.corr id k = x2.corr id k) : ex_TV { s1 with set := x1 } { s2 with set := x2 } :=
  ⟨h.ps, h.rt0, h.rt1, h.ptyn, h.lastRt, hp .ps, hp .rt, hp .ptyn, hc .ps .info, hc .ps .data, hc .rt .info,
    hc .rt .data, hc .ptyn .info, hc .ptyn .data, h.cbs, h.ud⟩

theorem ex_parserUpdate_congr (cfg : Cfg) {s1 s2 : State} (h : ex_TV s1 s2) {t1 t2 : Text} (ht : t1 = t2)
    (id : TextId) (w eb ex pos : Nat) :
    parserUpdate cfg s1.set t1 id w eb ex pos = parserUpdate cfg s2.set t2 id w eb ex pos := by
  unfold parserUpdate
  rw [h.corr id .info, h.corr id .data, h.prog id, ht]

def ac09_isText (k : EvKind) : Bool :=
  match k with
  | .ps | .rt _ | .ptyn | .ct _ => true
  | _ => false

theorem ac09_textKinds_eq (evs : List Event) : textKinds evs = (evs.map (·.kind)).filter ac09_isText := rfl

theorem ex_tk_nil : textKinds [] = [] := rfl

theorem ex_tk_emit (s : State) (c : Cb) {k : EvKind} (h : ac09_isText k = false) : textKinds (emit s c k) = [] := by
  unfold emit; split
  · show List.filter ac09_isText [k] = []
    rw [List.filter_cons, h]; rfl
  · rfl

theorem ex_tk_setField (s : State) (f : Fld) (v : Int) : textKinds (setField s f v).2 = [] := by
  rw [setField_snd]
  split
  · exact ex_tk_emit _ _ (by cases f <;> rfl)
  · rfl

theorem ex_tk_addAf (s : State) (v : Nat) : textKinds (addAf s v).2 = [] := by
  unfold addAf
  simp only [apply_ite Prod.snd, apply_ite textKinds, ex_tk_emit _ _ (rfl : ac09_isText (.af _) = false), ex_tk_nil,
    ite_self]

theorem ex_tv_setField (s : State) (f : Fld) (v : Int) : textView (setField s f v).1 = textView s := rfl

theorem ex_tv_addAf (s : State) (v : Nat) : textView (addAf s v).1 = textView s :=
  (congrArg textView (addAf_noBuf s v) :)

/-- the type of `textView` -/
abbrev ac09_View :=
  Text × Text × Text × Text × Int × (Bool × Bool × Bool × Nat × Nat × Nat × Nat × Nat × Nat) × List Bool × Nat

def ac09_evProj (e : Event) : EvKind × Nat × ac09_View := (e.kind, e.ud, textView e.snap)

/-- the text / clock-time callbacks of one call, in order: kind (with RT flag / clock-time value), user data passed,
and the text view the callback sees -/
def ac09_textEvs (evs : List Event) : List (EvKind × Nat × ac09_View) :=
  (evs.filter (fun e => ac09_isText e.kind)).map ac09_evProj

/-- what is kept of one trace entry: the text view after the call, its text / clock-time callbacks, its result -/
def ac09_proj (r : State × List Event × Bool) : ac09_View × List (EvKind × Nat × ac09_View) × Bool :=
  (textView r.1, ac09_textEvs r.2.1, r.2.2)

theorem ac09_textEvs_append (a b : List Event) : ac09_textEvs (a ++ b) = ac09_textEvs a ++ ac09_textEvs b := by
  simp only [ac09_textEvs, List.filter_append, List.map_append]

theorem ac09_textEvs_nil (evs : List Event) (h : textKinds evs = []) : ac09_textEvs evs = [] := by
  unfold ac09_textEvs
  rw [List.filter_eq_nil_iff.mpr, List.map_nil]
  intro e he hk
  have : e.kind ∈ textKinds evs := by
    rw [ac09_textKinds_eq]
    exact List.mem_filter.mpr ⟨List.mem_map.mpr ⟨e, he, rfl⟩, hk⟩
  rw [h] at this
  cases this

theorem ac09_textEvs_emit {s1 s2 : State} (h : textView s1 = textView s2) (c : Cb) (k : EvKind) :
    ac09_textEvs (emit s1 c k) = ac09_textEvs (emit s2 c k) := by
  have ht := ex_tv_of h
  unfold emit State.registered
  rw [ht.cbs]
  split
  · simp only [ac09_textEvs, List.filter_cons, List.filter_nil]
    split
    · simp only [List.map_cons, List.map_nil, ac09_evProj, ht.ud, h]
    · rfl
  · rfl

abbrev ac09_EL (a b : List Event) : Prop := ac09_textEvs a = ac09_textEvs b

theorem ac09_evRel : EvRel ac09_EL :=
  ⟨rfl, fun h1 h2 => by show ac09_textEvs _ = ac09_textEvs _; rw [ac09_textEvs_append, ac09_textEvs_append, h1, h2]⟩

theorem ac09_sim_silent {h : State → State × List Event} (hv : ∀ s, textView (h s).1 = textView s)
    (hk : ∀ s, textKinds (h s).2 = []) : Sim ex_TV ac09_EL h h := fun s1 s2 e =>
  ⟨ex_tv_of ((hv s1).trans (e.view.trans (hv s2).symm)),
    (ac09_textEvs_nil _ (hk s1)).trans (ac09_textEvs_nil _ (hk s2)).symm⟩

/-- The buffer pieces are silent; each text piece makes the same update on both sides because `parserUpdate` reads of
the settings only the threshold gate and the progressive flag, which the view holds (`ex_parserUpdate_congr`). -/
theorem ac09_leaves (cfg : Cfg) (g : Group) : Leaves ex_TV ac09_EL (pieces cfg g) (pieces cfg g) g where
  ev := ac09_evRel
  sf := fun f v _ => ac09_sim_silent (fun s => ex_tv_setField s f v) (fun s => ex_tk_setField s f v)
  af := fun v _ => ac09_sim_silent (fun s => ex_tv_addAf s v) (fun s => ex_tk_addAf s v)
  cty := fun _ _ => ac09_sim_silent (fun s => ex_tv_setField s _ _) (fun s => ex_tk_setField s _ _)
  ps := fun _ =>
    have hu : ∀ s1 s2, ex_TV s1 s2 → g0u cfg s1 g = g0u cfg s2 g := fun s1 s2 h =>
      ex_parserUpdate_congr cfg h h.ps .ps g.d g.eb g.ed (2 * (g.b % 4))
    Sim.upd ac09_evRel .ps .ps (fun s1 s2 h => { h with ps := congrArg (·.1) (hu s1 s2 h) })
      (fun s1 s2 h => by rw [hu s1 s2 h]) (fun _ _ h => ac09_textEvs_emit h.view _ _)
  g2 := fun _ =>
    have hu : ∀ p1 p2, ex_TV p1 p2 → g2u cfg p1 g = g2u cfg p2 g := fun p1 p2 h => by
      unfold g2u
      simp only []
      rw [ex_parserUpdate_congr cfg h (h.rt (g.b / 16 % 2)) .rt g.c g.eb g.ec (4 * (g.b % 16)), h.rt,
        ex_parserUpdate_congr cfg h rfl .rt g.d g.eb g.ed]
    Sim.group2 ac09_evRel g (fun _ _ h => h.lastRt) (fun _ _ h => by rw [h.rt])
      (fun _ _ h => h.setRt _ (by rw [h.rt])) (fun _ _ v h => { h with lastRt := rfl })
      fun clr => Sim.upd ac09_evRel .rt (.rt (g.b / 16 % 2))
        (fun p1 p2 h => h.setRt _ (congrArg (·.2.1) (hu p1 p2 h)))
        (fun p1 p2 h => by rw [hu p1 p2 h]) (fun _ _ h => ac09_textEvs_emit h.view _ _)
  g4 := fun _ => Sim.group4 ac09_evRel g fun _ _ _ h => ac09_textEvs_emit h.view _ _
  g10 := fun _ =>
    have hu : ∀ s1 s2, ex_TV s1 s2 → g10u cfg s1 g = g10u cfg s2 g := fun s1 s2 h => by
      unfold g10u
      simp only []
      rw [ex_parserUpdate_congr cfg h h.ptyn .ptyn g.c g.eb g.ec (4 * (g.b % 2)),
        ex_parserUpdate_congr cfg h rfl .ptyn g.d g.eb g.ed (4 * (g.b % 2) + 2)]
    Sim.ite _ (fun _ => Sim.upd ac09_evRel .ptyn .ptyn
      (fun s1 s2 h => { h with ptyn := congrArg (·.2.1) (hu s1 s2 h) })
      (fun s1 s2 h => congrArg (fun u => u.1.2 || u.2.2) (hu s1 s2 h))
      (fun _ _ h => ac09_textEvs_emit h.view _ _)) fun _ => Sim.id ac09_evRel

theorem ac09_proj_step (cfg : Cfg) (s1 s2 : State) (op : Op) (h : textView s1 = textView s2) :
    ac09_proj (step cfg s1 op) = ac09_proj (step cfg s2 op) := by
  obtain ⟨a, b, c⟩ := Sim.step (R := ex_TV) (EL := ac09_EL) ac09_evRel (cfgn := cfg) (cfgw := cfg) op
    (fun g _ => (ac09_leaves cfg g).sim)
    (ex_tv_of rfl)
    (fun _ _ h =>
      { h with
        ps := congrArg Text.cleared h.ps, rt0 := congrArg Text.cleared h.rt0, rt1 := congrArg Text.cleared h.rt1
        ptyn := congrArg Text.cleared h.ptyn, lastRt := rfl })
    (fun s1 s2 h => by
      -- a setter changes the thresholds and progressive flags of both states alike; then registrations and user data
      have hset : ex_TV { s1 with set := op.onSet s1.set } { s2 with set := op.onSet s2.set } := by
        cases op with
        | setCorr t k v =>
          exact h.of_set (fun id => by simp only [Op.onSet, Settings.setCorr_prog, h.prog])
            (fun id k => by simp only [Op.onSet, Settings.setCorr_corr, h.corr])
        | setProg t v =>
          exact h.of_set (fun id => by simp only [Op.onSet, Settings.setProg_prog, h.prog])
            (fun id k => by simp only [Op.onSet, Settings.setProg_corr, h.corr])
        | _ => exact { h with }
      exact { hset with cbs := congrArg op.onCbs h.cbs, ud := congrArg op.onUd h.ud })
    s1 s2 (ex_tv_of h)
  unfold ac09_proj
  rw [a.view, b, c]

theorem ac09_textKinds_map (evs : List Event) : textKinds evs = (ac09_textEvs evs).map (·.1) := by
  simp only [ac09_textKinds_eq, ac09_textEvs, List.map_map, List.filter_map]
  rfl

/-- one call: two states that agree on `textView` (whatever their buffered scalars, AF lists and extended-check
flags are) still agree on it afterwards, return the same result and fire the same text / clock-time callbacks -/
theorem C09_text_indep_step (cfg : Cfg) (s1 s2 : State) (op : Op) (h : textView s1 = textView s2) :
    textView (step cfg s1 op).1 = textView (step cfg s2 op).1 ∧
    (step cfg s1 op).2.2 = (step cfg s2 op).2.2 ∧
    textKinds (step cfg s1 op).2.1 = textKinds (step cfg s2 op).2.1 := by
  have e := ac09_proj_step cfg s1 s2 op h
  simp only [ac09_proj, Prod.mk.injEq] at e
  exact ⟨e.1, e.2.2, by rw [ac09_textKinds_map, ac09_textKinds_map, e.2.1]⟩

theorem ac09_proj_setExt (cfg : Cfg) (s1 s2 : State) (v w : Bool) (h : textView s1 = textView s2) :
    ac09_proj (step cfg s1 (.setExt v)) = ac09_proj (step cfg s2 (.setExt w)) := by
  show (textView s1, ac09_textEvs [], true) = (textView s2, ac09_textEvs [], true)
  rw [h]

theorem ac09_trace_cons (cfg : Cfg) (s : State) (op : Op) (ops : List Op) :
    trace cfg s (op :: ops) = step cfg s op :: trace cfg (step cfg s op).1 ops := rfl

theorem ac09_trace_from (cfg : Cfg) (ops ops' : List Op) (h : ExtRel ops ops') :
    ∀ s1 s2, textView s1 = textView s2 →
      (trace cfg s1 ops).map ac09_proj = (trace cfg s2 ops').map ac09_proj ∧
      textView (runFrom cfg s1 ops) = textView (runFrom cfg s2 ops') := by
  induction h with
  | nil => intro _ _ e; exact ⟨rfl, e⟩
  | same op _ ih =>
    intro s1 s2 e
    obtain ⟨i1, i2⟩ := ih _ _ (C09_text_indep_step cfg s1 s2 op e).1
    rw [ac09_trace_cons, ac09_trace_cons, List.map_cons, List.map_cons, ac09_proj_step cfg s1 s2 op e, i1]
    exact ⟨rfl, i2⟩
  | ext v w _ ih =>
    intro s1 s2 e
    obtain ⟨i1, i2⟩ := ih _ _ (show textView (step cfg s1 (.setExt v)).1 = textView (step cfg s2 (.setExt w)).1 from e)
    rw [ac09_trace_cons, ac09_trace_cons, List.map_cons, List.map_cons, ac09_proj_setExt cfg s1 s2 v w e, i1]
    exact ⟨rfl, i2⟩

/-- C09, history level: along two runs that differ only in the values written by `rdsparser_set_extended_check`, every
call shows the same text view afterwards, returns the same result and fires the same PS / RT / PTYN / clock-time
callbacks in the same order — same kind (RT flag, clock-time value), same user data, and the same text view visible
inside the callback -/
theorem C09_text_indep_trace (cfg : Cfg) (ops ops' : List Op) (h : ExtRel ops ops') :
    (trace cfg initState ops).map ac09_proj = (trace cfg initState ops').map ac09_proj :=
  (ac09_trace_from cfg ops ops' h initState initState rfl).1

theorem C09_text_indep (cfg : Cfg) (ops ops' : List Op) (h : ExtRel ops ops') :
    textView (run cfg ops) = textView (run cfg ops') :=
  (ac09_trace_from cfg ops ops' h initState initState rfl).2

def ac09_gR : Group := ⟨0x1234, 0x2000, 0x4142, 0x4344, 0, 0, 0, 0⟩   -- 2A, flag A, position 0, "ABCD"
def ac09_gT : Group := ⟨0x1234, 0x4001, 0xD6E7, 0x7B42, 0, 0, 0, 0⟩   -- 4A, a valid clock time

def ac09_t1 : List Op :=
  [.register .ps true, .register .rt true, .register .pi true, .register .ct true, .userData 7,
   .setExt true, .parse ac09_gA, .parse ac09_gR, .setExt false, .parse ac09_gA, .parse ac09_gT]
def ac09_t2 : List Op :=
  [.register .ps true, .register .rt true, .register .pi true, .register .ct true, .userData 7,
   .setExt false, .parse ac09_gA, .parse ac09_gR, .setExt true, .parse ac09_gA, .parse ac09_gT]

example : ExtRel ac09_t1 ac09_t2 :=
  .same _ (.same _ (.same _ (.same _ (.same _ (.ext true false (.same _ (.same _ (.ext false true
    (.same _ (.same _ .nil))))))))))

/-- the projected trace is not trivial (a PS, an RT and a clock-time callback are in it, each passed user data 7),
and the two full traces do differ (the PI callback fires at different calls) -/
example :
    ((trace ac09_cfg initState ac09_t1).map ac09_proj).map (fun r => r.2.1.map (fun e => (e.1, e.2.1))) =
      [[], [], [], [], [], [], [(.ps, 7)], [(.rt 0, 7)], [], [], [(.ct ⟨2023, 11, 28, 0, 45, 60⟩, 7)]] ∧
    (trace ac09_cfg initState ac09_t1).map (fun r => r.2.1.length) ≠
      (trace ac09_cfg initState ac09_t2).map (fun r => r.2.1.length) := by
  decide +kernel

end RDS

#print axioms RDS.C09_text_indep_step
#print axioms RDS.C09_text_indep
