import RdsProofs.C04Handlers
import RdsProofs.NormalShown
/-!
# Re-delivering the same group in normal mode is a no-op (C04, last sentence)

A state that already holds all a group delivers (`AbsorbedC`, `AbsorbedD` of NormalShown.lean) changes at most its
candidates under that group and notifies nothing but clock time (`absorbed_leaves`, `process_absorbed`); in normal mode
`process` leaves such a state (`process_estab`).
-/
namespace RDS

theorem Scalars.put_get_self (x : Scalars) (f : Fld) : x.put f (x.get f) = x := by
  cases f <;> rfl

/-- the same parser with other candidate values (normal mode never reads them) -/
def State.withTemp (s : State) (t : Scalars) : State := { s with temp := t }

theorem setField_absorbed (s : State) (f : Fld) (v : Int) (t0 : Scalars) (hext : s.set.ext = false)
    (h : s.used.get f = v) :
    ∃ t, setField (s.withTemp t0) f v = (s.withTemp t, []) := by
  refine ⟨t0.put f v, ?_⟩
  unfold State.withTemp
  simp only [setField, hext, bufUpdate, h, decide_true, Bool.true_or, if_true]
  rw [← h, Scalars.put_get_self]
  simp

theorem addAf_absorbed (s : State) (v : Nat) (h : AfAbsorbed s.used.af v) : addAf s v = (s, []) := by
  unfold addAf
  rcases h with h | h
  · rw [if_pos h]
  · have : afGet s.used.af v = false := by simp [afGet, h]
    simp [this, afSet, h]

theorem group10_absorbed (cfg : Cfg) (s : State) (g : Group) (h : Absorbed10 cfg s g) : group10 cfg s g = (s, []) := by
  cases hv : g.versionB
  · obtain ⟨h1, h2⟩ := h hv
    simp [group10_eq, g10u, hv, h1, h2]
  · exact group10_B cfg s g hv

theorem group4_absorbed (s : State) (g : Group) :
    (group4 s g).1 = s ∧ ∀ e ∈ (group4 s g).2, ∃ v, e.kind = .ct v := by
  refine ⟨group4_fst s g, fun e he => ?_⟩
  rw [group4_snd] at he
  split at he
  · split at he
    · exact ⟨_, (mem_emit he).1⟩
    · cases he
  · cases he

theorem group2_absorbed (cfg : Cfg) (s : State) (g : Group) (h : Absorbed2 cfg s g) : group2 cfg s g = (s, []) := by
  obtain ⟨h1, h2⟩ := h
  obtain ⟨e1, e2⟩ := g2s2_of_same h1
  rw [group2_eq, e1, e2]
  rcases h2 with h2 | ⟨h2, h3⟩
  · rw [if_pos h2]
  · split
    · rfl
    · cases hv : g.versionB
      · have h2' := h2 hv
        simp only [hv, Bool.not_false, if_true] at h3
        simp [g2tail, g2u, hv, h2', h3, setRt_self]
      · simp only [hv, Bool.not_true, Bool.false_eq_true, if_false] at h3
        simp [g2tail, g2u, hv, h3, setRt_self]

/-- The second delivery as a run "in step" with nothing: whatever the candidates, a piece leaves the absorbing state
`s` as it is up to the candidates, and notifies at most clock time. -/
theorem absorbed_leaves (cfg : Cfg) (s : State) (g : Group) (hext : s.set.ext = false)
    (hc : AbsorbedC s g) (hd : AbsorbedD cfg s g) :
    Leaves (fun (_ b : State) => ∃ t, b = s.withTemp t) (fun _ e => ∀ x ∈ e, ∃ v, x.kind = .ct v)
      (pieces cfg g) (pieces cfg g) g := by
  have quiet : ∀ {h : State → State × List Event}, (∀ t0, ∃ t, h (s.withTemp t0) = (s.withTemp t, [])) →
      Sim (fun (_ b : State) => ∃ t, b = s.withTemp t) (fun _ e => ∀ x ∈ e, ∃ v, x.kind = .ct v) h h := by
    rintro h hh _ _ ⟨t0, rfl⟩
    obtain ⟨t, e⟩ := hh t0
    rw [e]; exact ⟨⟨t, rfl⟩, by simp⟩
  obtain ⟨h0, h1, h2, h10⟩ := hd
  exact
  { ev := ⟨by simp, fun ha hb x hx => (List.mem_append.1 hx).elim (ha x) (hb x)⟩
    sf := by
      intro f v occ
      refine quiet fun t0 => setField_absorbed s f v t0 hext ?_
      cases occ with
      | pi h => exact hc.1 h
      | pty h => exact (hc.2 h).1
      | tp h => exact (hc.2 h).2
      | ta ht h => exact ((h0 ht).1 h).1
      | ms ht h => exact ((h0 ht).1 h).2
      | ecc ht h => exact (h1 ht h).1
    af := by
      intro v occ
      refine quiet fun t0 => ⟨t0, addAf_absorbed _ _ ?_⟩
      cases occ with
      | hi ht h => exact ((h0 ht).2.2 h).1
      | lo ht h => exact ((h0 ht).2.2 h).2
    cty := fun ht h => quiet fun t0 => setField_absorbed s .country _ t0 hext (h1 ht h).2
    ps := by
      intro ht
      refine quiet fun t0 => ⟨t0, ?_⟩
      have e : g0u cfg (s.withTemp t0) g = (s.ps, false) := (h0 ht).2.1
      show psUpd cfg g (s.withTemp t0) = _
      unfold psUpd; rw [e]; rfl
    g2 := fun ht => quiet fun t0 => ⟨t0, group2_absorbed cfg (s.withTemp t0) g (h2 ht)⟩
    g4 := by
      rintro _ _ _ ⟨t0, rfl⟩
      exact ⟨⟨t0, (group4_absorbed _ g).1⟩, (group4_absorbed _ g).2⟩
    g10 := fun ht => quiet fun t0 => ⟨t0, group10_absorbed cfg (s.withTemp t0) g (h10 ht)⟩ }

theorem process_absorbed (cfg : Cfg) (s : State) (g : Group) (hext : s.set.ext = false)
    (hc : AbsorbedC s g) (hd : AbsorbedD cfg s g) :
    ∃ t, (process cfg s g).1 = s.withTemp t ∧ ∀ e ∈ (process cfg s g).2, ∃ v, e.kind = .ct v := by
  obtain ⟨⟨t, ht⟩, he⟩ := (absorbed_leaves cfg s g hext hc hd).sim s s ⟨s.temp, rfl⟩
  exact ⟨t, ht, he⟩

theorem redeliver_core (cfg : Cfg) (s : State) (g : Group) (hext : s.set.ext = false)
    (hlen : s.used.af.length = afBits) :
    ∃ t, (process cfg (process cfg s g).1 g).1 = (process cfg s g).1.withTemp t ∧
      ∀ e ∈ (process cfg (process cfg s g).1 g).2, ∃ v, e.kind = .ct v := by
  obtain ⟨hc, hd⟩ := process_estab cfg s g hext hlen
  exact process_absorbed cfg _ g (by rw [process_set]; exact hext) hc hd

theorem Obs.ofState_withTemp (s : State) (t : Scalars) : Obs.ofState (s.withTemp t) = Obs.ofState s := rfl

end RDS
