import RdsProofs.C04Stages
/-!
# `HOk` for the handlers that are sequences of stages (`groupCommon`, `group0`, `group1`), for `dispatch` and `process`
-/
namespace RDS

/-- what `groupCommon` may touch -/
def touchCommon : List Comp := [.sc .pi, .sc .pty, .sc .tp]
/-- what `dispatch` may touch -/
def touchDispatch : List Comp := [.sc .ta, .sc .ms, .sc .ecc, .sc .country, .af, .ps, .rt0, .rt1, .ptyn]

theorem HOk_groupCommon (s : State) (g : Group) : HOk touchCommon [] s (groupCommon s g) := by
  have h1 : HOk [.sc .pi] [] s (if g.ea = 0 then setField s .pi g.a else (s, [])) :=
    HOk_guard _ fun _ => HOk_setField ..
  unfold groupCommon
  simp only
  split
  · exact HOk_seq (HOk_seq h1 (HOk_setField _ .pty _) (by rfl)) (HOk_setField _ .tp _) (by rfl)
  · exact HOk_mono h1 (by rfl)

theorem HOk_group1 (cfg : Cfg) (s : State) (g : Group) :
    HOk [.sc .ecc, .sc .country] [] s (group1 cfg s g) :=
  HOk_guard _ fun _ => HOk_seq (HOk_setField s .ecc _) (HOk_setField _ .country _) (by rfl)

theorem HOk_group0 (cfg : Cfg) (s : State) (g : Group) (hlen : s.used.af.length = afBits) :
    HOk [.sc .ta, .sc .ms, .ps, .af] [] s (group0 cfg s g) := by
  have h1 : HOk [.sc .ta, .sc .ms] [] s (g0r1 s g) :=
    HOk_guard _ fun _ => HOk_seq (HOk_setField s .ta _) (HOk_setField _ .ms _) (by rfl)
  have h12 : HOk [.sc .ta, .sc .ms, .ps] [] s (g0ps cfg s g) :=
    HOk_seq h1 (HOk_psStage cfg (g0r1 s g).1 g.d g.eb g.ed (2 * (g.b % 4))) (by rfl)
  rw [group0_eq]
  split
  · have h := HOk_seq h12 (HOk_afPair (g0ps cfg s g).1 (g.c / 256 % 256) (g.c % 256)
      ((congrArg List.length (g0ps_used_af cfg s g)).trans hlen)) (by rfl)
    simp only [List.append_assoc] at h ⊢
    exact h
  · exact HOk_mono h12 (by rfl)

/-- the components forced to notify by `dispatch`: the A/B switch of a type-2 group -/
def forcedOf (s : State) (g : Group) : List Comp :=
  if g.type = 2 ∧ g2clr s g = true then [rtComp g] else []

theorem HOk_dispatch (cfg : Cfg) (s : State) (g : Group) (hlen : s.used.af.length = afBits) :
    HOk touchDispatch (forcedOf s g) s (dispatch cfg s g) := by
  have hN : g.type ≠ 2 → forcedOf s g = [] := fun hn => if_neg fun h => hn h.1
  refine dispatch_cases cfg s g ?_ ?_ ?_ ?_ ?_ ?_
  · exact fun ht => hN (by omega) ▸ HOk_mono (HOk_group0 cfg s g hlen) (by rfl)
  · exact fun ht => hN (by omega) ▸ HOk_mono (HOk_group1 cfg s g) (by rfl)
  · intro ht
    have e : forcedOf s g = if g2clr s g = true then [rtComp g] else [] := by simp [forcedOf, ht]
    have hm : ([rtComp g].all fun X => touchDispatch.contains X) = true := by
      unfold rtComp; split <;> rfl
    exact e ▸ HOk_mono (HOk_group2 cfg s g) hm
  · exact fun ht => hN (by omega) ▸ HOk_mono (HOk_group4 s g) (by rfl)
  · exact fun ht => hN (by omega) ▸ HOk_mono (HOk_group10 cfg s g) (by rfl)
  · exact fun _ _ h2 _ _ => hN h2 ▸ HOk_nil touchDispatch s

theorem g2clr_groupCommon (s : State) (g : Group) : g2clr (groupCommon s g).1 g = g2clr s g := by
  show g2clr (groupCommon s g).1.noBuf g = g2clr s.noBuf g
  rw [groupCommon_noBuf]

theorem HOk_process (cfg : Cfg) (s : State) (g : Group) (hlen : s.used.af.length = afBits) :
    HOk (touchCommon ++ touchDispatch) (forcedOf s g) s (process cfg s g) := by
  have h1 := HOk_groupCommon s g
  have hl : (groupCommon s g).1.used.af.length = afBits := by
    rw [groupCommon_used_af]; exact hlen
  have h2 := HOk_dispatch cfg (groupCommon s g).1 g hl
  have h := HOk_seq h1 h2 (by rfl)
  have e : forcedOf (groupCommon s g).1 g = forcedOf s g := by
    simp [forcedOf, g2clr_groupCommon]
  rw [e] at h
  exact h

end RDS
