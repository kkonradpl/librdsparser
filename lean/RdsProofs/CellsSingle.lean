import RdsProofs.Frame
/-!
# RdsProofs.CellsSingle — `updateSingle` / `parserUpdate` as the closed form `cellSpec`; a text update as a pointwise
image with a "changed" flag (`Ptw`)
-/
namespace RDS

/-- at 0 the truncated subtraction gives the first branch of `calcError` -/
theorem calcError_eq_sub (ei ed : Nat) : calcError ei ed = 2 * ei + 3 * ed - 1 := by
  unfold calcError; split <;> omega

theorem calcError_eq_zero (ei ed : Nat) : calcError ei ed = 0 ↔ ei = 0 ∧ ed = 0 := by
  rw [calcError_eq_sub]; omega

/-- the weighted level as `cellSpec` and `recvLevel` spell it -/
theorem calcError_eq_level (ei ed : Nat) :
    calcError ei ed = if (ei = 0 && ed = 0) then 0 else 2 * ei + 3 * ed - 1 := by
  rw [calcError_eq_sub]
  split
  · rename_i h; simp only [Bool.and_eq_true, decide_eq_true_eq] at h; omega
  · rfl

theorem conv_cr (cfg : Cfg) : conv cfg 0x0D = 0 := by simp [conv]

/-- the five rejection tests of `rdsparser_string_update_single`, negated: the byte is stored -/
def storeOk (cfg : Cfg) (cell : Cell) (b ei ed : Nat) (prog : Bool) : Bool :=
  !(prog && cell.lvl < calcError ei ed) && !(b = 0x0D && (ei != 0 || ed != 0)) &&
  !(b != 0x0D && b < 0x20) && !(0x7F ≤ b && (ei != 0 || ed != 0)) &&
  !(cell.ch = conv cfg b && cell.lvl ≤ calcError ei ed)

theorem updateSingle_eq (cfg : Cfg) (t : Text) (b ei ed pos : Nat) (prog : Bool) :
    updateSingle cfg t b ei ed pos prog =
      match t[pos]? with
      | none => (t, .oob)
      | some c =>
        if storeOk cfg c b ei ed prog then (t.set pos ⟨conv cfg b, calcError ei ed⟩, .stored)
        else (t, .rejected) := by
  unfold updateSingle storeOk
  cases t[pos]? with
  | none => rfl
  | some c =>
    simp only []
    generalize (prog && decide (c.lvl < calcError ei ed)) = a1
    generalize (decide (b = 0x0D) && (ei != 0 || ed != 0)) = a2
    generalize (b != 0x0D && decide (b < 0x20)) = a3
    generalize (decide (0x7F ≤ b) && (ei != 0 || ed != 0)) = a4
    generalize (decide (c.ch = conv cfg b) && decide (c.lvl ≤ calcError ei ed)) = a5
    cases a1 <;> cases a2 <;> cases a3 <;> cases a4 <;> cases a5 <;> rfl

theorem updateSingle_none (cfg : Cfg) (t : Text) (b ei ed pos : Nat) (prog : Bool) (hc : t[pos]? = none) :
    updateSingle cfg t b ei ed pos prog = (t, .oob) := by
  rw [updateSingle_eq, hc]

theorem updateSingle_some (cfg : Cfg) (t : Text) (b ei ed pos : Nat) (prog : Bool) (c : Cell)
    (hc : t[pos]? = some c) :
    updateSingle cfg t b ei ed pos prog =
      if storeOk cfg c b ei ed prog then (t.set pos ⟨conv cfg b, calcError ei ed⟩, .stored)
      else (t, .rejected) := by
  rw [updateSingle_eq, hc]

theorem storeOk_stored (cfg : Cfg) (b ei ed : Nat) (prog : Bool) :
    storeOk cfg ⟨conv cfg b, calcError ei ed⟩ b ei ed prog = false := by
  simp [storeOk]

theorem storeOk_ne {cfg : Cfg} {c : Cell} {b ei ed : Nat} {prog : Bool} (h : storeOk cfg c b ei ed prog = true) :
    c ≠ ⟨conv cfg b, calcError ei ed⟩ := by
  rintro rfl
  rw [storeOk_stored] at h
  cases h

/-- the five tests as the rules of C06/C07 -/
theorem storeOk_iff (cfg : Cfg) (c : Cell) (b ei ed : Nat) (prog : Bool) :
    storeOk cfg c b ei ed prog = true ↔
      (prog = true → calcError ei ed ≤ c.lvl) ∧ (b = 0x0D ∨ 0x20 ≤ b) ∧
      (b = 0x0D ∨ 0x7F ≤ b → ei = 0 ∧ ed = 0) ∧ ¬ (c.ch = conv cfg b ∧ c.lvl ≤ calcError ei ed) := by
  unfold storeOk
  generalize calcError ei ed = err
  have hA : (!(prog && decide (c.lvl < err))) = true ↔ (prog = true → err ≤ c.lvl) := by
    cases prog <;> simp
  have hnz : (ei != 0 || ed != 0) = false ↔ (ei = 0 ∧ ed = 0) := by
    simp only [Bool.or_eq_false_iff, bne_eq_false_iff_eq]
  have hBD : ∀ (p : Prop) [Decidable p] (nz : Bool), (!(decide p && nz)) = true ↔ (p → nz = false) := by
    intro p _ nz; cases nz <;> simp
  have hC : (!(b != 0x0D && decide (b < 0x20))) = true ↔ (b = 0x0D ∨ 0x20 ≤ b) := by
    simp only [Bool.not_eq_true', Bool.and_eq_false_iff, bne_eq_false_iff_eq, decide_eq_false_iff_not, Nat.not_lt]
  simp only [Bool.and_eq_true, hA, hBD, hnz, hC, or_imp, decide_eq_false_iff_not, not_and]
  constructor
  · rintro ⟨⟨⟨⟨a, b'⟩, c'⟩, d⟩, e⟩; exact ⟨a, c', ⟨b', d⟩, e⟩
  · rintro ⟨a, c', ⟨b', d⟩, e⟩; exact ⟨⟨⟨⟨a, b'⟩, c'⟩, d⟩, e⟩

theorem storeOk_errored {cfg : Cfg} {c : Cell} {b ei ed : Nat} {prog : Bool} (hb : b = 0x0D ∨ 0x7F ≤ b)
    (he : ¬ (ei = 0 ∧ ed = 0)) : storeOk cfg c b ei ed prog = false :=
  Bool.eq_false_iff.2 fun hs => he (((storeOk_iff ..).mp hs).2.2.1 hb)

/-- the closed form of C06 is the threshold gate followed by `storeOk` -/
theorem cellSpec_eq (cfg : Cfg) (info data : Nat) (prog : Bool) (old : Cell) (b ei ed : Nat) :
    cellSpec cfg info data prog old b ei ed =
      if ei ≤ info && ed ≤ data && storeOk cfg old b ei ed prog then ⟨conv cfg b, calcError ei ed⟩ else old := by
  unfold cellSpec storeOk
  rw [← calcError_eq_level]
  generalize calcError ei ed = err
  have e1 : (!prog || decide (err ≤ old.lvl)) = !(prog && decide (old.lvl < err)) := by
    cases prog
    · rfl
    · rw [Bool.eq_iff_iff]; simp
  have e2 : (b != 0x0D || (decide (ei = 0) && decide (ed = 0))) = !(decide (b = 0x0D) && (ei != 0 || ed != 0)) := by
    rw [Bool.eq_iff_iff]; simp
  have e3 : (decide (b = 0x0D) || decide (0x20 ≤ b)) = !(b != 0x0D && decide (b < 0x20)) := by
    rw [Bool.eq_iff_iff]; simp
  have e4 : (decide (b < 0x7F) || (decide (ei = 0) && decide (ed = 0))) = !(decide (0x7F ≤ b) && (ei != 0 || ed != 0)) := by
    rw [Bool.eq_iff_iff]; simp
  have e5 : decide (conv cfg b = old.ch) = decide (old.ch = conv cfg b) := decide_eq_decide.mpr eq_comm
  simp only [e1, e2, e3, e4, e5, Bool.and_assoc]

/-- one byte offered to a cell -/
def cellStep (cfg : Cfg) (b ei ed : Nat) (prog : Bool) (c : Cell) : Cell :=
  if storeOk cfg c b ei ed prog then ⟨conv cfg b, calcError ei ed⟩ else c

theorem cellStep_idem (cfg : Cfg) (b ei ed : Nat) (prog : Bool) (c : Cell) :
    cellStep cfg b ei ed prog (cellStep cfg b ei ed prog c) = cellStep cfg b ei ed prog c := by
  unfold cellStep
  by_cases h : storeOk cfg c b ei ed prog = true
  · rw [if_pos h, storeOk_stored]; rfl
  · rw [if_neg h, if_neg h]

theorem updateSingle_getElem? (cfg : Cfg) (t : Text) (b ei ed pos : Nat) (prog : Bool) (i : Nat) :
    (updateSingle cfg t b ei ed pos prog).1[i]? =
      if i = pos then t[i]?.map (cellStep cfg b ei ed prog) else t[i]? := by
  rw [updateSingle_eq]
  by_cases hi : i = pos
  · subst hi; rw [if_pos rfl]
    cases hc : t[i]? with
    | none => simpa using hc
    | some c =>
      simp only [Option.map_some, cellStep]
      split
      · rw [List.getElem?_set_self (List.getElem?_eq_some_iff.1 hc).1]
      · exact hc
  · rw [if_neg hi]
    split
    · rfl
    · split
      · exact List.getElem?_set_ne (Ne.symm hi)
      · rfl

theorem updateSingle_stored_iff (cfg : Cfg) (t : Text) (b ei ed pos : Nat) (prog : Bool) :
    (updateSingle cfg t b ei ed pos prog).2 = .stored ↔
      ∃ c, t[pos]? = some c ∧ cellStep cfg b ei ed prog c ≠ c := by
  rw [updateSingle_eq]
  cases hc : t[pos]? with
  | none => simp
  | some c =>
    simp only [Option.some.injEq, exists_eq_left', cellStep]
    by_cases hs : storeOk cfg c b ei ed prog = true
    · simp only [hs, if_true, true_iff]; exact (storeOk_ne hs).symm
    · simp [hs]

theorem cellSpec_step (cfg : Cfg) (info data : Nat) (prog : Bool) (c : Cell) (b ei ed : Nat) :
    cellSpec cfg info data prog c b ei ed =
      if ei ≤ info && ed ≤ data then cellStep cfg b ei ed prog c else c := by
  rw [cellSpec_eq]; unfold cellStep
  by_cases hg : (decide (ei ≤ info) && decide (ed ≤ data)) = true <;> simp [hg]

theorem cellSpec_idem (cfg : Cfg) (info data : Nat) (prog : Bool) (c : Cell) (b ei ed : Nat) :
    cellSpec cfg info data prog (cellSpec cfg info data prog c b ei ed) b ei ed =
      cellSpec cfg info data prog c b ei ed := by
  simp only [cellSpec_step]
  split
  · exact cellStep_idem ..
  · rfl

/-- what `parserUpdate` does to the cell at index `i` -/
def cellUpd (cfg : Cfg) (set : Settings) (id : TextId) (w eb ex pos i : Nat) (c : Cell) : Cell :=
  if i = pos then cellSpec cfg (set.corr id .info) (set.corr id .data) (set.prog id) c (w / 256 % 256) eb ex
  else if i = pos + 1 then cellSpec cfg (set.corr id .info) (set.corr id .data) (set.prog id) c (w % 256) eb ex
  else c

theorem parserUpdate_getElem? (cfg : Cfg) (set : Settings) (t : Text) (id : TextId) (w eb ex pos i : Nat) :
    (parserUpdate cfg set t id w eb ex pos).1[i]? = t[i]?.map (cellUpd cfg set id w eb ex pos i) := by
  unfold parserUpdate cellUpd
  simp only [cellSpec_step]
  by_cases hg : (decide (eb ≤ set.corr id .info) && decide (ex ≤ set.corr id .data)) = true
  · simp only [hg, if_true, updateString, updateSingle_getElem?]
    by_cases h1 : i = pos
    · subst h1; simp
    · by_cases h2 : i = pos + 1
      · subst h2; simp
      · simp [h1, h2]
  · simp [hg]

theorem parserUpdate_snd (cfg : Cfg) (set : Settings) (t : Text) (id : TextId) (w eb ex pos : Nat) :
    (parserUpdate cfg set t id w eb ex pos).2 = true ↔
      ∃ i c, t[i]? = some c ∧ cellUpd cfg set id w eb ex pos i c ≠ c := by
  unfold parserUpdate cellUpd
  simp only [cellSpec_step]
  by_cases hg : (decide (eb ≤ set.corr id .info) && decide (ex ≤ set.corr id .data)) = true
  · simp only [hg, if_true, updateString, Bool.or_eq_true, beq_iff_eq, updateSingle_stored_iff,
      updateSingle_getElem?]
    constructor
    · rintro (⟨c, hc, hne⟩ | ⟨c, hc, hne⟩)
      · exact ⟨pos, c, hc, by simpa using hne⟩
      · exact ⟨pos + 1, c, by simpa using hc, by simpa using hne⟩
    · rintro ⟨i, c, hc, hne⟩
      by_cases h1 : i = pos
      · subst h1; exact Or.inl ⟨c, hc, by simpa using hne⟩
      · by_cases h2 : i = pos + 1
        · subst h2; exact Or.inr ⟨c, by simpa using hc, by simpa using hne⟩
        · simp [h1, h2] at hne
  · simp [hg]

/-- `r` is `t` with the cell at each index `i` moved by `H i`, and its flag tells whether some cell moved -/
def Ptw (r : Text × Bool) (t : Text) (H : Nat → Cell → Cell) : Prop :=
  (∀ i, r.1[i]? = t[i]?.map (H i)) ∧ (r.2 = true ↔ ∃ i c, t[i]? = some c ∧ H i c ≠ c)

theorem Ptw.parserUpdate (cfg : Cfg) (set : Settings) (t : Text) (id : TextId) (w eb ex pos : Nat) :
    Ptw (parserUpdate cfg set t id w eb ex pos) t (cellUpd cfg set id w eb ex pos) :=
  ⟨fun _ => parserUpdate_getElem? .., parserUpdate_snd ..⟩

theorem Ptw.fix {r : Text × Bool} {t : Text} {H : Nat → Cell → Cell} (h : Ptw r t H)
    (hH : ∀ i c, t[i]? = some c → H i c = c) : r = (t, false) := by
  refine Prod.ext (List.ext_getElem? fun i => ?_) (Bool.eq_false_iff.2 fun h2 => ?_)
  · rw [h.1 i]
    cases hc : t[i]? with
    | none => rfl
    | some c => exact congrArg some (hH i c hc)
  · obtain ⟨i, c, hc, hne⟩ := h.2.1 h2
    exact hne (hH i c hc)

theorem Ptw.changed_iff {r : Text × Bool} {t : Text} {H : Nat → Cell → Cell} (h : Ptw r t H) :
    r.2 = true ↔ r.1 ≠ t := by
  refine h.2.trans ⟨?_, fun hne => Classical.byContradiction fun hn => hne ?_⟩
  · rintro ⟨i, c, hc, hne⟩ e
    have := h.1 i
    rw [e, hc] at this
    exact hne (Option.some.inj this).symm
  · exact congrArg Prod.fst (h.fix fun i c hc => Classical.byContradiction fun hh => hn ⟨i, c, hc, hh⟩)

/-- two updates of which at each index at most one moves the cell -/
theorem Ptw.seq {r1 r2 : Text × Bool} {t : Text} {F G : Nat → Cell → Cell} (h1 : Ptw r1 t F) (h2 : Ptw r2 r1.1 G)
    (hd : ∀ i, (∀ c, F i c = c) ∨ (∀ c, G i c = c)) : Ptw (r2.1, r1.2 || r2.2) t (fun i c => G i (F i c)) := by
  refine ⟨fun i => by rw [h2.1, h1.1, Option.map_map]; rfl, ?_⟩
  rw [Bool.or_eq_true, h1.2, h2.2]
  simp only []
  constructor
  · rintro (⟨i, c, hc, hne⟩ | ⟨i, c, hc, hne⟩)
    · refine ⟨i, c, hc, ?_⟩
      rcases hd i with h | h
      · exact absurd (h c) hne
      · rw [h]; exact hne
    · rw [h1.1, Option.map_eq_some_iff] at hc
      obtain ⟨c0, hc0, rfl⟩ := hc
      refine ⟨i, c0, hc0, ?_⟩
      rcases hd i with h | h
      · rw [h] at hne ⊢; exact hne
      · exact absurd (h _) hne
  · rintro ⟨i, c, hc, hne⟩
    rcases hd i with h | h
    · exact Or.inr ⟨i, c, by rw [h1.1, hc, Option.map_some, h], by rw [h] at hne; exact hne⟩
    · exact Or.inl ⟨i, c, hc, by rw [h] at hne; exact hne⟩

theorem cellUpd_idem (cfg : Cfg) (set : Settings) (id : TextId) (w eb ex pos i : Nat) (c : Cell) :
    cellUpd cfg set id w eb ex pos i (cellUpd cfg set id w eb ex pos i c) = cellUpd cfg set id w eb ex pos i c := by
  unfold cellUpd
  by_cases h1 : i = pos
  · simp only [if_pos h1, cellSpec_idem]
  · by_cases h2 : i = pos + 1
    · simp only [if_neg h1, if_pos h2, cellSpec_idem]
    · simp only [if_neg h1, if_neg h2]

theorem cellUpd_disjoint (cfg : Cfg) (set : Settings) (id : TextId) (w1 w2 eb ex1 ex2 p q : Nat)
    (hd : p + 1 < q ∨ q + 1 < p) (i : Nat) :
    (∀ c, cellUpd cfg set id w1 eb ex1 p i c = c) ∨ (∀ c, cellUpd cfg set id w2 eb ex2 q i c = c) := by
  unfold cellUpd
  by_cases h : i = p ∨ i = p + 1
  · have h1 : i ≠ q := by omega
    have h2 : i ≠ q + 1 := by omega
    exact .inr fun c => by rw [if_neg h1, if_neg h2]
  · exact .inl fun c => by rw [if_neg fun e => h (.inl e), if_neg fun e => h (.inr e)]

theorem parserUpdate_changed_iff (cfg : Cfg) (set : Settings) (t : Text) (id : TextId) (w eb ex pos : Nat) :
    (parserUpdate cfg set t id w eb ex pos).2 = true ↔ (parserUpdate cfg set t id w eb ex pos).1 ≠ t :=
  (Ptw.parserUpdate ..).changed_iff

theorem parserUpdate2_changed_iff (cfg : Cfg) (set : Settings) (t : Text) (id : TextId)
    (w1 w2 eb ex1 ex2 p q : Nat) (hd : p + 1 < q ∨ q + 1 < p) :
    ((parserUpdate cfg set t id w1 eb ex1 p).2 ||
      (parserUpdate cfg set (parserUpdate cfg set t id w1 eb ex1 p).1 id w2 eb ex2 q).2) = true ↔
    (parserUpdate cfg set (parserUpdate cfg set t id w1 eb ex1 p).1 id w2 eb ex2 q).1 ≠ t :=
  ((Ptw.parserUpdate ..).seq (Ptw.parserUpdate ..) (cellUpd_disjoint cfg set id w1 w2 eb ex1 ex2 p q hd)).changed_iff

theorem parserUpdate_idem_self (cfg : Cfg) (set : Settings) (t : Text) (id : TextId) (w eb ex pos : Nat) :
    parserUpdate cfg set (parserUpdate cfg set t id w eb ex pos).1 id w eb ex pos =
      ((parserUpdate cfg set t id w eb ex pos).1, false) := by
  refine (Ptw.parserUpdate ..).fix fun i c hc => ?_
  rw [parserUpdate_getElem?, Option.map_eq_some_iff] at hc
  obtain ⟨c0, _, rfl⟩ := hc
  exact cellUpd_idem ..

/-- redoing the first of two updates on disjoint index pairs, after the second -/
theorem parserUpdate_idem_fst (cfg : Cfg) (set : Settings) (t : Text) (id : TextId)
    (w1 w2 eb ex1 ex2 p q : Nat) (hd : p + 1 < q ∨ q + 1 < p) :
    parserUpdate cfg set (parserUpdate cfg set (parserUpdate cfg set t id w1 eb ex1 p).1 id w2 eb ex2 q).1
      id w1 eb ex1 p =
    ((parserUpdate cfg set (parserUpdate cfg set t id w1 eb ex1 p).1 id w2 eb ex2 q).1, false) := by
  refine (Ptw.parserUpdate ..).fix fun i c hc => ?_
  rw [parserUpdate_getElem?, parserUpdate_getElem?, Option.map_map, Option.map_eq_some_iff] at hc
  obtain ⟨c0, _, rfl⟩ := hc
  rcases cellUpd_disjoint cfg set id w1 w2 eb ex1 ex2 p q hd i with h | h
  · simp only [Function.comp, h]
  · simp only [Function.comp, h, cellUpd_idem]

/-- one byte through `updateSingle`, as a closed form (C06) -/
theorem updateSingle_cellSpec (cfg : Cfg) (t : Text) (b ei ed pos : Nat) (prog : Bool) (info data : Nat)
    (hp : pos < t.length) (hi : ei ≤ info) (hd : ed ≤ data) :
    (updateSingle cfg t b ei ed pos prog).1 =
      t.set pos (cellSpec cfg info data prog (t.getD pos blank) b ei ed) := by
  have hgd : t.getD pos blank = t[pos] := getD_lt t pos hp
  rw [updateSingle_eq, cellSpec_eq, List.getElem?_eq_getElem hp, hgd]
  simp only [hi, hd, decide_true, Bool.true_and]
  split
  · rfl
  · exact (hgd ▸ set_getD_self t pos blank).symm

theorem cellSpec_gate_reject (cfg : Cfg) (info data : Nat) (prog : Bool) (old : Cell) (b ei ed : Nat)
    (h : ¬ (ei ≤ info ∧ ed ≤ data)) : cellSpec cfg info data prog old b ei ed = old := by
  have : (decide (ei ≤ info) && decide (ed ≤ data)) = false := by
    simp only [Bool.and_eq_false_iff, decide_eq_false_iff_not]; omega
  rw [cellSpec_eq, this]; rfl

theorem recvLevel_eq (eb ex : Nat) : recvLevel eb ex = calcError eb ex := (calcError_eq_level eb ex).symm

/-- a reception leaves the cell alone, or stores, and then it passed every rule of C06/C07 -/
theorem cellSpec_cases (cfg : Cfg) (info data : Nat) (prog : Bool) (old : Cell) (b eb ex : Nat) :
    cellSpec cfg info data prog old b eb ex = old ∨
    (cellSpec cfg info data prog old b eb ex = ⟨conv cfg b, recvLevel eb ex⟩ ∧
      eb ≤ info ∧ ex ≤ data ∧ (prog = true → recvLevel eb ex ≤ old.lvl) ∧
      (b = 0x0D ∨ 0x20 ≤ b) ∧ (b = 0x0D ∨ 0x7F ≤ b → eb = 0 ∧ ex = 0) ∧
      ¬ (old.ch = conv cfg b ∧ old.lvl ≤ recvLevel eb ex)) := by
  rw [cellSpec_eq, recvLevel_eq]
  split
  · rename_i h
    simp only [Bool.and_eq_true, decide_eq_true_eq] at h
    exact .inr ⟨rfl, h.1.1, h.1.2, (storeOk_iff cfg old b eb ex prog).mp h.2⟩
  · exact .inl rfl

theorem storeOk_error_free (cfg : Cfg) (c : Cell) (b : Nat) (prog : Bool) :
    storeOk cfg c b 0 0 prog = true ↔ (b = 0x0D ∨ 0x20 ≤ b) ∧ c ≠ ⟨conv cfg b, 0⟩ := by
  rw [storeOk_iff, show calcError 0 0 = 0 from rfl]
  obtain ⟨ch, lvl⟩ := c
  simp only [Nat.zero_le, implies_true, and_self, Nat.le_zero_eq, not_and, true_and, ne_eq, Cell.mk.injEq]

/-- an error-free storable byte always lands: it is stored, or the cell already is what would be stored -/
theorem cellSpec_error_free_stored {cfg : Cfg} {info data : Nat} {prog : Bool} {old : Cell} {b : Nat}
    (hb : b = 0x0D ∨ 0x20 ≤ b) : cellSpec cfg info data prog old b 0 0 = ⟨conv cfg b, 0⟩ := by
  rw [cellSpec_eq, show calcError 0 0 = 0 from rfl]
  simp only [Nat.zero_le, decide_true, Bool.true_and]
  split
  · rfl
  · rename_i hs
    exact Decidable.byContradiction fun hne => hs ((storeOk_error_free ..).mpr ⟨hb, hne⟩)

theorem cellSpec_error_free (cfg : Cfg) (info data : Nat) (prog : Bool) (old : Cell) (b : Nat) :
    cellSpec cfg info data prog old b 0 0 =
      if b = 0x0D then ⟨0, 0⟩ else if b < 0x20 then old else ⟨conv cfg b, 0⟩ := by
  by_cases hb : b = 0x0D ∨ 0x20 ≤ b
  · rw [cellSpec_error_free_stored hb]
    rcases hb with rfl | hb
    · rw [if_pos rfl, conv_cr]
    · rw [if_neg (by omega), if_neg (by omega)]
  · have hs : ¬ storeOk cfg old b 0 0 prog = true := fun hs => hb ((storeOk_error_free ..).mp hs).1
    rw [cellSpec_eq, if_neg fun h => hs ((Bool.and_eq_true _ _).mp h).2, if_neg fun e => hb (.inl e),
      if_pos (by omega)]

/-- C07 core: with progressive correction the level never increases -/
theorem cellSpec_lvl_le (cfg : Cfg) (info data : Nat) (old : Cell) (b ei ed : Nat) :
    (cellSpec cfg info data true old b ei ed).lvl ≤ old.lvl := by
  rcases cellSpec_cases cfg info data true old b ei ed with h | ⟨h, _, _, hp, _⟩ <;> rw [h]
  · exact Nat.le_refl _
  · exact hp rfl

@[simp] theorem updateSingle_length (cfg : Cfg) (t : Text) (b ei ed pos : Nat) (prog : Bool) :
    (updateSingle cfg t b ei ed pos prog).1.length = t.length := by
  rw [updateSingle_eq]
  cases t[pos]? with
  | none => rfl
  | some c => simp only []; split <;> simp

@[simp] theorem parserUpdate_length (cfg : Cfg) (set : Settings) (t : Text) (id : TextId) (w eb ex pos : Nat) :
    (parserUpdate cfg set t id w eb ex pos).1.length = t.length := by
  unfold parserUpdate updateString
  split <;> simp

theorem getAvailable_iff (x : Text) : getAvailable x = true ↔ ∃ i, (x.getD i blank).lvl ≠ 10 := by
  unfold getAvailable
  rw [List.any_eq_true]
  constructor
  · rintro ⟨c, hc, hl⟩
    obtain ⟨i, hi, rfl⟩ := List.getElem_of_mem hc
    exact ⟨i, by rw [getD_lt _ _ hi]; simpa using hl⟩
  · rintro ⟨i, hl⟩
    rcases Nat.lt_or_ge i x.length with hi | hi
    · rw [getD_lt _ _ hi] at hl
      exact ⟨_, List.getElem_mem hi, by simpa using hl⟩
    · exact absurd (by rw [getD_ge hi]; rfl) hl

end RDS
