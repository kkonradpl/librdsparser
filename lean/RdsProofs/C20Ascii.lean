import RdsProofs.C20Base
import RdsProofs.CellsSingle
/-!
# C20, instance (A) of the generic simulation: the wide build's texts are the
embedding of the narrow build's texts as long as no byte ≥ 0x7F is presented
-/
namespace RDS

/-- a narrow cell that has never stored a byte ≥ 0x7F -/
def c20_CellA (c : Cell) : Prop := c.ch = 0 ∨ (0x20 ≤ c.ch ∧ c.ch ≤ 0x7E)

def c20_TA (cfg : Cfg) (tn tw : Text) : Prop := tw = embedText cfg tn ∧ ∀ c ∈ tn, c20_CellA c

def c20_WA (w : Nat) : Prop := w / 256 % 256 < 0x7F ∧ w % 256 < 0x7F

def c20_ELA (cfg : Cfg) (evn evw : List Event) : Prop :=
  evn.map (fun e => (e.kind, e.ud, embedState cfg e.snap)) = evw.map (fun e => (e.kind, e.ud, e.snap))

theorem c20_embedCell_lvl (cfg : Cfg) (c : Cell) : (embedCell cfg c).lvl = c.lvl := by
  unfold embedCell; split <;> rfl

theorem c20_embedCell_blank (cfg : Cfg) (h : G0Ascii cfg) : embedCell cfg blank = blank := by
  unfold embedCell blank
  simp only [show ¬ (32 = 0) by decide, if_false]
  rw [h.1]

theorem c20_cellA_blank : c20_CellA blank := Or.inr ⟨Nat.le_refl _, by decide⟩

theorem c20_conv_narrow (cfg : Cfg) (b : Nat) (_h1 : ¬ (b ≠ 0x0D ∧ b < 0x20)) (h2 : b < 0x7F) :
    conv cfg.narrow b = if b = 0x0D then 0 else b := by
  unfold conv Cfg.narrow
  by_cases hb : b = 0x0D
  · simp [hb]
  · have : ¬ 0x7F ≤ b := by omega
    simp [hb, this]

theorem c20_conv_wide (cfg : Cfg) (b : Nat) (h1 : ¬ (b ≠ 0x0D ∧ b < 0x20)) :
    conv cfg.wide b = if b = 0x0D then 0 else cfg.g0 b := by
  unfold conv Cfg.wide
  by_cases hb : b = 0x0D
  · simp [hb]
  · have : ¬ b < 0x20 := fun h => h1 ⟨hb, h⟩
    simp [hb, this]

theorem c20_embed_conv (cfg : Cfg) (b e : Nat) (h1 : ¬ (b ≠ 0x0D ∧ b < 0x20)) (h2 : b < 0x7F) :
    embedCell cfg ⟨conv cfg.narrow b, e⟩ = ⟨conv cfg.wide b, e⟩ := by
  rw [c20_conv_narrow cfg b h1 h2, c20_conv_wide cfg b h1]
  unfold embedCell
  by_cases hb : b = 0x0D
  · simp [hb]
  · have : b ≠ 0 := by omega
    simp [hb, this]

theorem c20_conv_cellA (cfg : Cfg) (b e : Nat) (h1 : ¬ (b ≠ 0x0D ∧ b < 0x20)) (h2 : b < 0x7F) :
    c20_CellA ⟨conv cfg.narrow b, e⟩ := by
  rw [c20_conv_narrow cfg b h1 h2]
  unfold c20_CellA
  by_cases hb : b = 0x0D
  · simp [hb]
  · simp only [hb, if_false]; omega

/-- on what a narrow cell can hold the embedding is injective: 0 stays 0, and the table is injective and never 0 on
0x20..0x7E -/
theorem c20_embedCell_ch_inj (cfg : Cfg) (h : G0Ascii cfg) {c d : Cell} (hc : c20_CellA c) (hd : c20_CellA d) :
    (embedCell cfg c).ch = (embedCell cfg d).ch ↔ c.ch = d.ch := by
  unfold embedCell
  rcases hc with hc | hc <;> rcases hd with hd | hd
  · rw [if_pos hc, if_pos hd]
  · have hd0 : d.ch ≠ 0 := by omega
    rw [if_pos hc, if_neg hd0, hc]
    exact ⟨fun e => absurd e.symm (h.2.1 d.ch hd.1 hd.2), fun e => absurd e.symm hd0⟩
  · have hc0 : c.ch ≠ 0 := by omega
    rw [if_neg hc0, if_pos hd, hd]
    exact ⟨fun e => absurd e (h.2.1 c.ch hc.1 hc.2), fun e => absurd e hc0⟩
  · have hc0 : c.ch ≠ 0 := by omega
    have hd0 : d.ch ≠ 0 := by omega
    rw [if_neg hc0, if_neg hd0]
    exact ⟨h.2.2 c.ch d.ch hc.1 hc.2 hd.1 hd.2, fun e => by rw [e]⟩

theorem c20_storeOk_A (cfg : Cfg) (h : G0Ascii cfg) (c : Cell) (hc : c20_CellA c) (b ei ed : Nat) (prog : Bool)
    (hb : b < 0x7F) : storeOk cfg.wide (embedCell cfg c) b ei ed prog = storeOk cfg.narrow c b ei ed prog := by
  rw [Bool.eq_iff_iff, storeOk_iff, storeOk_iff, c20_embedCell_lvl]
  -- the same-data test agrees
  have hsame : (b = 0x0D ∨ 0x20 ≤ b) → ((embedCell cfg c).ch = conv cfg.wide b ↔ c.ch = conv cfg.narrow b) := by
    intro h2
    have h1 : ¬ (b ≠ 0x0D ∧ b < 0x20) := by omega
    have := c20_embedCell_ch_inj cfg h hc (c20_conv_cellA cfg b 0 h1 hb)
    rwa [c20_embed_conv cfg b 0 h1 hb] at this
  constructor
  · rintro ⟨h1, h2, h3, h4⟩
    exact ⟨h1, h2, h3, fun e => h4 ⟨(hsame h2).mpr e.1, e.2⟩⟩
  · rintro ⟨h1, h2, h3, h4⟩
    exact ⟨h1, h2, h3, fun e => h4 ⟨(hsame h2).mp e.1, e.2⟩⟩

theorem c20_updateSingle_A (cfg : Cfg) (h : G0Ascii cfg) (t : Text) (ht : ∀ c ∈ t, c20_CellA c)
    (b ei ed pos : Nat) (prog : Bool) (hb : b < 0x7F) :
    updateSingle cfg.wide (embedText cfg t) b ei ed pos prog =
      (embedText cfg (updateSingle cfg.narrow t b ei ed pos prog).1, (updateSingle cfg.narrow t b ei ed pos prog).2) ∧
    ∀ c ∈ (updateSingle cfg.narrow t b ei ed pos prog).1, c20_CellA c := by
  have hg : (embedText cfg t)[pos]? = t[pos]?.map (embedCell cfg) := by
    unfold embedText; exact List.getElem?_map
  cases hc : t[pos]? with
  | none =>
    rw [hc] at hg
    rw [updateSingle_none _ _ _ _ _ _ _ hc, updateSingle_none _ _ _ _ _ _ _ hg]
    exact ⟨rfl, ht⟩
  | some cell =>
    rw [hc] at hg
    rw [updateSingle_some _ _ _ _ _ _ _ _ hc, updateSingle_some _ _ _ _ _ _ _ _ hg,
      c20_storeOk_A cfg h cell (ht cell (List.mem_of_getElem? hc)) b ei ed prog hb]
    cases hs : storeOk cfg.narrow cell b ei ed prog
    · exact ⟨rfl, ht⟩
    · have h1 : ¬ (b ≠ 0x0D ∧ b < 0x20) := by
        have := ((storeOk_iff _ _ _ _ _ _).mp hs).2.1
        omega
      refine ⟨?_, ?_⟩
      · show _ = (embedText cfg (t.set pos _), _)
        unfold embedText
        rw [List.map_set, c20_embed_conv cfg b _ h1 hb]
        rfl
      · intro c hm
        rcases List.mem_or_eq_of_mem_set hm with hm | hm
        · exact ht c hm
        · rw [hm]; exact c20_conv_cellA cfg b _ h1 hb

theorem c20_updateString_A (cfg : Cfg) (h : G0Ascii cfg) (t : Text) (ht : ∀ c ∈ t, c20_CellA c)
    (w ei ed pos : Nat) (prog : Bool) (hw : c20_WA w) :
    updateString cfg.wide (embedText cfg t) w ei ed pos prog =
      (embedText cfg (updateString cfg.narrow t w ei ed pos prog).1, (updateString cfg.narrow t w ei ed pos prog).2) ∧
    ∀ c ∈ (updateString cfg.narrow t w ei ed pos prog).1, c20_CellA c := by
  unfold updateString
  have a1 := c20_updateSingle_A cfg h t ht (w / 256 % 256) ei ed pos prog hw.1
  have a2 := c20_updateSingle_A cfg h _ a1.2 (w % 256) ei ed (pos + 1) prog hw.2
  simp only [a1.1, a2.1]
  exact ⟨trivial, a2.2⟩

theorem c20_parserUpdate_A (cfg : Cfg) (h : G0Ascii cfg) (set : Settings) (t : Text) (ht : ∀ c ∈ t, c20_CellA c)
    (id : TextId) (w eb ex pos : Nat) (hw : c20_WA w) :
    parserUpdate cfg.wide set (embedText cfg t) id w eb ex pos =
      (embedText cfg (parserUpdate cfg.narrow set t id w eb ex pos).1, (parserUpdate cfg.narrow set t id w eb ex pos).2) ∧
    ∀ c ∈ (parserUpdate cfg.narrow set t id w eb ex pos).1, c20_CellA c := by
  unfold parserUpdate
  split
  · exact c20_updateString_A cfg h t ht w eb ex pos _ hw
  · exact ⟨rfl, ht⟩

theorem c20_RA_eq {cfg : Cfg} {P : Settings → Prop} {sn sw : State} (h : c20_R (c20_TA cfg) P sn sw) :
    sw = embedState cfg sn := by
  cases sn; cases sw
  obtain ⟨rfl, rfl, rfl, rfl, rfl, rfl, rfl, rfl, rfl, rfl, ⟨rfl, _⟩, ⟨rfl, _⟩, ⟨rfl, _⟩, ⟨rfl, _⟩, _⟩ := h
  rfl

theorem c20_ela_emit {cfg : Cfg} {P : Settings → Prop} {sn sw : State} (c : Cb) (k : EvKind)
    (h : c20_R (c20_TA cfg) P sn sw) : c20_ELA cfg (emit sn c k) (emit sw c k) := by
  have hreg : sw.registered c = sn.registered c := by unfold State.registered; rw [h.cbs]
  unfold emit c20_ELA
  rw [hreg]
  cases sn.registered c
  · rfl
  · simp only [if_true, List.map_cons, List.map_nil]
    rw [← c20_RA_eq h, h.ud]

theorem c20_ax_A (cfg : Cfg) (h : G0Ascii cfg) :
    c20_Ax cfg.narrow cfg.wide (c20_TA cfg) (fun _ => True) c20_WA Eq (c20_ELA cfg) where
  ecc := rfl
  el_nil := rfl
  el_app := by
    intro a a' b b' h1 h2
    unfold c20_ELA at *
    rw [List.map_append, List.map_append, h1, h2]
  el_emit := fun c k hR _ => c20_ela_emit c k hR
  el_text := by
    intro sn sw c k f f' hR _ hf
    subst hf
    cases f
    · exact rfl
    · exact c20_ela_emit c k hR
  fr_refl := fun _ => rfl
  fr_or := by intro a a' b b' h1 h2; rw [h1, h2]
  pu := by
    intro tn tw set id w eb ex pos ht _ hw
    have := c20_parserUpdate_A cfg h set tn ht.2 id w eb ex pos hw
    rw [ht.1, this.1]
    exact ⟨⟨rfl, this.2⟩, rfl⟩
  avail := by
    intro t t' ht
    rw [ht.1]
    unfold getAvailable embedText
    rw [List.any_map]
    congr 1
    funext c
    simp only [Function.comp, c20_embedCell_lvl]
  cleared := by
    intro t t' ht
    refine ⟨?_, ?_⟩
    · rw [ht.1]
      unfold Text.cleared embedText
      rw [List.map_map, List.map_map]
      congr 1
      funext c
      simp only [Function.comp, c20_embedCell_blank cfg h]
    · intro c hc
      unfold Text.cleared at hc
      rcases List.mem_map.mp hc with ⟨_, _, rfl⟩
      exact c20_cellA_blank
  init := by
    intro n
    refine ⟨?_, ?_⟩
    · unfold embedText
      rw [List.map_replicate, c20_embedCell_blank cfg h]
    · intro c hc
      rw [List.eq_of_mem_replicate hc]
      exact c20_cellA_blank
  p_init := trivial
  p_ext := fun _ _ _ => trivial
  p_corr := fun _ _ _ _ _ => trivial
  p_prog := fun _ _ _ _ => trivial

end RDS
