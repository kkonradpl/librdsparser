import RdsProofs.MonGroup
/-!
# Frame theorems about the model (C01, C10, C11, C17)

About `step`, `process`, `run` for ARBITRARY states unless a history is mentioned, arbitrary tables `cfg`, unbounded
naturals in the group fields. A getter value other than "unknown" (-1) never falls back to -1 except through `init` /
`clear`, in either mode (C01); nothing but a 1A group with error-free B, C and variant 0 changes ECC or country, visible
or candidate (C11); the AF list only gains bits between resets (C10); the settings / registration / user-data calls
fire no event, return `true` and change nothing of the decoded data, each setter changes exactly its own key, and a
setting reads back what was last written to it (C17).
-/
namespace RDS

/-- a toy configuration for the non-vacuity examples (identity charset, ECC table constantly 7) -/
def afr_cfg : Cfg := ⟨true, fun b => b, fun _ _ => 7⟩

/-! ## C01: never back to "unknown" -/

theorem C01_received_nonneg (g : Group) (v : Int) :
    (selPi g = some v ∨ selPty g = some v ∨ selTp g = some v ∨ selTa g = some v ∨ selMs g = some v ∨
      selEcc g = some v) → 0 ≤ v := by
  unfold selPi selPty selTp selTa selMs selEcc
  intro h
  rcases h with h | h | h | h | h | h <;> split at h <;>
    first
    | (cases h; exact Int.natCast_nonneg _)
    | cases h

theorem Fld.sel_nonneg {f : Fld} {g : Group} {v : Int} (h : f.sel g = some v) : 0 ≤ v :=
  C01_received_nonneg g v (by cases f <;> first | cases h | simp only [Fld.sel] at h; simp [h])


theorem setField_ne_unknown (s : State) (f f' : Fld) (v : Int) (hv : v ≠ -1)
    (h : s.used.get f' ≠ -1) : (setField s f v).1.used.get f' ≠ -1 := by
  by_cases e : f' = f
  · subst e
    rw [setField_used_get]
    rcases bufUpdate_fst s.set.ext (s.used.get f') (s.temp.get f') v with h1 | h1 <;> rw [h1] <;> assumption
  · rw [setField_used_get_ne _ _ _ _ e]; exact h

theorem eccLookup_ne_unknown (cfg : Cfg) (pi ecc : Int) : eccLookup cfg pi ecc ≠ -1 := by
  unfold eccLookup
  split
  · decide
  · simp only []
    split
    · decide
    · omega

/-- what a group receives is never negative, and no table entry is -1 -/
theorem process_ne_unknown (cfg : Cfg) (s : State) (g : Group) (f : Fld) (h : s.used.get f ≠ -1) :
    (process cfg s g).1.used.get f ≠ -1 :=
  process_ind cfg g (P := fun s => s.used.get f ≠ -1)
    (fun _ v s hs => setField_ne_unknown s _ f v (fun hv => by have := Fld.sel_nonneg hs; omega))
    (fun _ s _ => setField_ne_unknown s _ f _ (eccLookup_ne_unknown _ _ _)) (fun v s hs => by rw [addAf_used_get]; exact hs)
    (fun s s' hu _ hs => by rw [hu]; exact hs) s h

/-- From ANY state (reachable or not, either mode): no visible scalar that is not -1 becomes -1. For the five tuning
fields and ECC, -1 is "unknown". -/
theorem C01_never_unknown_step (cfg : Cfg) (s : State) (op : Op) (hi : op ≠ .init) (hc : op ≠ .clear)
    (f : Fld) (h : s.used.get f ≠ -1) : (step cfg s op).1.used.get f ≠ -1 := by
  cases hg : op.group? with
  | some g => rw [step_group cfg s hg]; exact process_ne_unknown cfg s g f h
  | none => rw [step_quiet cfg s hg hi hc]; exact h

/-- C01, last clause ("never falls back to unknown except through a reset"), on the getters: after every history each of
PI/PTY/TP/TA/MS that is known stays known through any call other than `init`/`clear`, in either mode and across mode
switches. -/
theorem C01_never_unknown_getter (cfg : Cfg) (ops : List Op) (op : Op) (hi : op ≠ .init) (hc : op ≠ .clear) :
    ((run cfg ops).used.pi ≠ -1 → (run cfg (ops ++ [op])).used.pi ≠ -1) ∧
    ((run cfg ops).used.pty ≠ -1 → (run cfg (ops ++ [op])).used.pty ≠ -1) ∧
    ((run cfg ops).used.tp ≠ -1 → (run cfg (ops ++ [op])).used.tp ≠ -1) ∧
    ((run cfg ops).used.ta ≠ -1 → (run cfg (ops ++ [op])).used.ta ≠ -1) ∧
    ((run cfg ops).used.ms ≠ -1 → (run cfg (ops ++ [op])).used.ms ≠ -1) := by
  rw [run_snoc]
  exact ⟨C01_never_unknown_step cfg _ op hi hc .pi, C01_never_unknown_step cfg _ op hi hc .pty,
    C01_never_unknown_step cfg _ op hi hc .tp, C01_never_unknown_step cfg _ op hi hc .ta,
    C01_never_unknown_step cfg _ op hi hc .ms⟩

/-- the same over any continuation `ops'` free of `init`/`clear` (all seven buffered scalars) -/
theorem C01_never_unknown_getter_suffix (cfg : Cfg) (ops ops' : List Op)
    (hops : ∀ op ∈ ops', op ≠ .init ∧ op ≠ .clear) (f : Fld) :
    (run cfg ops).used.get f ≠ -1 → (run cfg (ops ++ ops')).used.get f ≠ -1 := by
  rw [run_append]
  exact runFrom_induct cfg (P := fun s => s.used.get f ≠ -1)
    (fun s op ho => C01_never_unknown_step cfg s op ho.1 ho.2 f) ops' _ hops

/-- non-vacuity: after a 0A group all five fields are known (so every hypothesis of the theorem is met), also
under the extended check after two identical groups; and `clear` really does fall back -/
example :
    let g : Group := ⟨0x1234, 0x0408 ||| (5 <<< 5), 0x5A01, 0x4142, 0, 0, 0, 0⟩
    (run afr_cfg [.parse g]).used.pi ≠ -1 ∧ (run afr_cfg [.parse g]).used.pty ≠ -1 ∧
    (run afr_cfg [.parse g]).used.tp ≠ -1 ∧ (run afr_cfg [.parse g]).used.ta ≠ -1 ∧
    (run afr_cfg [.parse g]).used.ms ≠ -1 ∧
    (run afr_cfg [.setExt true, .parse g, .parse g]).used.pi ≠ -1 ∧
    (run afr_cfg [.parse g, .clear]).used.pi = -1 := by
  decide +kernel

/-! ## C11: what changes ECC and country -/

/-- "a 1A group with error-free blocks B and C and variant code 0" -/
def afr_Ecc1A (g : Group) : Prop :=
  g.type = 1 ∧ g.versionB = false ∧ g.eb = 0 ∧ g.ec = 0 ∧ g.c / 4096 % 8 = 0

instance (g : Group) : Decidable (afr_Ecc1A g) := by unfold afr_Ecc1A; exact inferInstance

/-- `hcty`: the country has no selector of its own, it is written whenever an ECC is delivered -/
theorem process_keep_fld (cfg : Cfg) (s : State) (g : Group) (f : Fld) (hsel : f.sel g = none)
    (hcty : f = .country → selEcc g = none) :
    (process cfg s g).1.used.get f = s.used.get f ∧ (process cfg s g).1.temp.get f = s.temp.get f :=
  process_ind cfg g (P := fun s' => s'.used.get f = s.used.get f ∧ s'.temp.get f = s.temp.get f)
    (fun f' v s' hs hp => by
      have hne : f ≠ f' := by rintro rfl; rw [hsel] at hs; cases hs
      rw [setField_used_get_ne _ _ _ _ hne, setField_temp_get_ne _ _ _ _ hne]; exact hp)
    (fun e s' he hp => by
      have hne : f ≠ .country := fun h => by rw [hcty h] at he; cases he
      rw [setField_used_get_ne _ _ _ _ hne, setField_temp_get_ne _ _ _ _ hne]; exact hp)
    (fun v s' hp => by rw [addAf_used_get, addAf_temp_get]; exact hp)
    (fun s' s'' hu ht hp => by rw [hu, ht]; exact hp) s ⟨rfl, rfl⟩

/-- C11 frame: for ALL states and groups, a group that is not "1A, B and C error-free, variant 0" leaves ECC and country
alone, visible values and extended-check candidates. (In particular the PI update of the same group does not recompute
the country.) -/
theorem C11_frame (cfg : Cfg) (s : State) (g : Group)
    (h : ¬ (g.type = 1 ∧ g.versionB = false ∧ g.eb = 0 ∧ g.ec = 0 ∧ g.c / 4096 % 8 = 0)) :
    (process cfg s g).1.used.ecc = s.used.ecc ∧ (process cfg s g).1.used.country = s.used.country ∧
    (process cfg s g).1.temp.ecc = s.temp.ecc ∧ (process cfg s g).1.temp.country = s.temp.country := by
  have hn : selEcc g = none := if_neg h
  have e := process_keep_fld cfg s g .ecc hn nofun
  have c := process_keep_fld cfg s g .country rfl fun _ => hn
  exact ⟨e.1, c.1, e.2, c.2⟩

/-- … over the public API: every call other than `init`, `clear` and a parse (binary or hex string) of such a group -/
theorem C11_frame_step (cfg : Cfg) (s : State) (op : Op) (hi : op ≠ .init) (hc : op ≠ .clear)
    (hg : ∀ g, op.group? = some g → ¬ afr_Ecc1A g) :
    (step cfg s op).1.used.ecc = s.used.ecc ∧ (step cfg s op).1.used.country = s.used.country ∧
    (step cfg s op).1.temp.ecc = s.temp.ecc ∧ (step cfg s op).1.temp.country = s.temp.country := by
  cases hg' : op.group? with
  | some g => rw [step_group cfg s hg']; exact C11_frame cfg s g (hg g hg')
  | none => rw [step_quiet cfg s hg' hi hc]; exact ⟨rfl, rfl, rfl, rfl⟩

theorem C11_frame_history (cfg : Cfg) (ops : List Op) (op : Op) (hi : op ≠ .init) (hc : op ≠ .clear)
    (hg : ∀ g, op.group? = some g → ¬ afr_Ecc1A g) :
    (run cfg (ops ++ [op])).used.ecc = (run cfg ops).used.ecc ∧
    (run cfg (ops ++ [op])).used.country = (run cfg ops).used.country ∧
    (run cfg (ops ++ [op])).temp.ecc = (run cfg ops).temp.ecc ∧
    (run cfg (ops ++ [op])).temp.country = (run cfg ops).temp.country := by
  rw [run_snoc]
  exact C11_frame_step cfg _ op hi hc hg

/-- non-vacuity: a history in which ECC and country are known (0xE2, 7), followed by groups that fail the condition
in each of the five possible ways (other type; 1B; block B in error; block C in error; variant 1) although each
carries a different "ECC" byte and a different PI; and the 1A variant-0 group itself does change them -/
example :
    let g1 : Group := ⟨0x1234, 0x1000, 0x00E2, 0, 0, 0, 0, 0⟩
    (run afr_cfg [.parse g1]).used.ecc = 0xE2 ∧ (run afr_cfg [.parse g1]).used.country = 7 ∧
    ¬ afr_Ecc1A ⟨0xF234, 0x3000, 0x00A0, 0, 0, 0, 0, 0⟩ ∧ ¬ afr_Ecc1A ⟨0xF234, 0x1800, 0x00A0, 0, 0, 0, 0, 0⟩ ∧
    ¬ afr_Ecc1A ⟨0xF234, 0x1000, 0x00A0, 0, 0, 1, 0, 0⟩ ∧ ¬ afr_Ecc1A ⟨0xF234, 0x1000, 0x00A0, 0, 0, 0, 1, 0⟩ ∧
    ¬ afr_Ecc1A ⟨0xF234, 0x1000, 0x10A0, 0, 0, 0, 0, 0⟩ ∧
    afr_Ecc1A ⟨0xF234, 0x1000, 0x00A0, 0, 0, 0, 0, 0⟩ ∧
    (run afr_cfg [.parse g1, .parse ⟨0xF234, 0x1000, 0x00A0, 0, 0, 0, 0, 0⟩]).used.ecc = 0xA0 := by
  decide +kernel

/-! ## C10: the AF list only gains bits between resets -/

/-- only the counting of an AF code writes the list, and it only sets bits -/
theorem step_af_keeps (cfg : Cfg) (s : State) (op : Op) (hi : op ≠ .init) (hc : op ≠ .clear) (v : Nat)
    (h : s.used.af.getD v false = true) : (step cfg s op).1.used.af.getD v false = true := by
  cases hg : op.group? with
  | some g =>
    rw [step_group cfg s hg]
    exact process_ind cfg g (P := fun s => s.used.af.getD v false = true)
      (fun _ _ s _ hs => by rw [setField_used_af]; exact hs) (fun _ s _ hs => by rw [setField_used_af]; exact hs)
      (fun w s hs => addAf_keeps s w v hs)
      (fun s s' hu _ hs => by rw [hu]; exact hs) s h
  | none => rw [step_quiet cfg s hg hi hc]; exact h

set_option linter.unusedVariables false in
/-- the list only grows between resets -/
theorem C10_monotone (tb : Tabs) (h : EccOk tb) (ops : List Op) (op : Op) (hop : op ≠ .init ∧ op ≠ .clear)
    (v : Nat) (hb : (run tb.cfg ops).used.af.getD v false = true) :
    (run tb.cfg (ops ++ [op])).used.af.getD v false = true := by
  rw [run_snoc]
  exact step_af_keeps tb.cfg _ op hop.1 hop.2 v hb

/-! ## C17: the settings calls touch nothing but their own key -/

/-- the calls of C17: the three setters, callback registration, user data, getters -/
def afr_SettingsOp : Op → Prop
  | .setExt _ | .setCorr _ _ _ | .setProg _ _ | .register _ _ | .userData _ | .getters => True
  | _ => False

/-- the ten keys, read through `ext` / `prog` / `corr`, determine the settings (the key view is complete) -/
theorem afr_settings_ext (a b : Settings) (he : a.ext = b.ext) (hp : ∀ t, a.prog t = b.prog t)
    (hk : ∀ t k, a.corr t k = b.corr t k) : a = b := by
  cases a; cases b
  simp only [Settings.mk.injEq]
  exact ⟨he, hp .ps, hp .rt, hp .ptyn, hk .ps .info, hk .ps .data, hk .rt .info, hk .rt .data, hk .ptyn .info,
    hk .ptyn .data⟩

/-- C17 frame, for ALL states: a settings / registration / user-data / getter call fires no callback, returns `true`,
and leaves every component of the state other than `set`, `cbs`, `ud` as it is. -/
theorem C17_settings_frame (cfg : Cfg) (s : State) (op : Op) (h : afr_SettingsOp op) :
    (step cfg s op).2.1 = [] ∧ (step cfg s op).2.2 = true ∧
    { (step cfg s op).1 with set := s.set, cbs := s.cbs, ud := s.ud } = s := by
  cases op <;> first | exact absurd h id | exact ⟨rfl, rfl, rfl⟩

/-- `rdsparser_set_extended_check` changes only the key `ext` -/
theorem C17_setExt_only (cfg : Cfg) (s : State) (v : Bool) :
    (step cfg s (.setExt v)).1.set.ext = v ∧
    (∀ t, (step cfg s (.setExt v)).1.set.prog t = s.set.prog t) ∧
    (∀ t k, (step cfg s (.setExt v)).1.set.corr t k = s.set.corr t k) ∧
    (step cfg s (.setExt v)).1.cbs = s.cbs ∧ (step cfg s (.setExt v)).1.ud = s.ud :=
  ⟨rfl, Settings.setExt_prog s.set v, Settings.setExt_corr s.set v, rfl, rfl⟩

/-- thresholds above 'large' read back as 'large'; writing one key changes no other key -/
theorem C17_clamp (s : Settings) (t : TextId) (k : BlockType) (v : Nat) :
    (s.setCorr t k v).corr t k = min v 2 ∧
    (∀ t' k', (t', k') ≠ (t, k) → (s.setCorr t k v).corr t' k' = s.corr t' k') ∧
    (s.setCorr t k v).ext = s.ext ∧ (∀ t', (s.setCorr t k v).prog t' = s.prog t') :=
  ⟨by rw [Settings.setCorr_corr, if_pos ⟨rfl, rfl⟩],
    fun t' k' hne => by rw [Settings.setCorr_corr, if_neg (fun h => hne (by rw [h.1, h.2]))],
    Settings.setCorr_ext s t k v, Settings.setCorr_prog s t k v⟩

/-- `rdsparser_set_text_correction` changes only the key `(t, k)`, to `min v 2` -/
theorem C17_setCorr_only (cfg : Cfg) (s : State) (t : TextId) (k : BlockType) (v : Nat) :
    (step cfg s (.setCorr t k v)).1.set.corr t k = min v 2 ∧
    (∀ t' k', (t', k') ≠ (t, k) → (step cfg s (.setCorr t k v)).1.set.corr t' k' = s.set.corr t' k') ∧
    (∀ t', (step cfg s (.setCorr t k v)).1.set.prog t' = s.set.prog t') ∧
    (step cfg s (.setCorr t k v)).1.set.ext = s.set.ext ∧
    (step cfg s (.setCorr t k v)).1.cbs = s.cbs ∧ (step cfg s (.setCorr t k v)).1.ud = s.ud :=
  have h := C17_clamp s.set t k v
  ⟨h.1, h.2.1, Settings.setCorr_prog s.set t k v, Settings.setCorr_ext s.set t k v, rfl, rfl⟩

/-- `rdsparser_set_text_progressive` changes only the key `t` -/
theorem C17_setProg_only (cfg : Cfg) (s : State) (t : TextId) (v : Bool) :
    (step cfg s (.setProg t v)).1.set.prog t = v ∧
    (∀ t', t' ≠ t → (step cfg s (.setProg t v)).1.set.prog t' = s.set.prog t') ∧
    (∀ t' k', (step cfg s (.setProg t v)).1.set.corr t' k' = s.set.corr t' k') ∧
    (step cfg s (.setProg t v)).1.set.ext = s.set.ext ∧
    (step cfg s (.setProg t v)).1.cbs = s.cbs ∧ (step cfg s (.setProg t v)).1.ud = s.ud := by
  refine ⟨?_, fun t' hne => ?_, fun t' k' => Settings.setProg_corr s.set t v t' k', Settings.setProg_ext _ _ _, rfl, rfl⟩
  · show (s.set.setProg t v).prog t = _
    rw [Settings.setProg_prog, if_pos rfl]
  · show (s.set.setProg t v).prog t' = _
    rw [Settings.setProg_prog, if_neg (fun h => hne h.symm)]

/-- registration, user data and getters do not touch any setting; registration changes only that callback's slot -/
theorem C17_other_keep_settings (cfg : Cfg) (s : State) :
    (∀ c on, (step cfg s (.register c on)).1.set = s.set ∧ (step cfg s (.register c on)).1.ud = s.ud ∧
      (step cfg s (.register c on)).1.cbs = s.cbs.set c.idx on) ∧
    (∀ n, (step cfg s (.userData n)).1.set = s.set ∧ (step cfg s (.userData n)).1.cbs = s.cbs ∧
      (step cfg s (.userData n)).1.ud = n) ∧
    (step cfg s .getters).1 = s :=
  ⟨fun _ _ => ⟨rfl, rfl, rfl⟩, fun _ => ⟨rfl, rfl, rfl⟩, rfl⟩

theorem C17_settings_frame_history (cfg : Cfg) (ops : List Op) (op : Op) (h : afr_SettingsOp op) :
    { run cfg (ops ++ [op]) with set := (run cfg ops).set, cbs := (run cfg ops).cbs, ud := (run cfg ops).ud }
      = run cfg ops := by
  rw [run_snoc]
  exact (C17_settings_frame cfg _ op h).2.2

theorem step_set (cfg : Cfg) (s : State) (op : Op) :
    (step cfg s op).1.set = match op with
      | .init => Settings.init
      | .setExt v => { s.set with ext := v }
      | .setCorr t k v => s.set.setCorr t k v
      | .setProg t v => s.set.setProg t v
      | _ => s.set := by
  rcases op.kind_cases with rfl | rfl | ⟨g, hg⟩ | ⟨hg, h1, h2⟩
  · rfl
  · rfl
  · rw [step_group cfg s hg, process_set]
    cases op <;> first | rfl | cases hg
  · rw [step_quiet cfg s hg h1 h2]
    cases op <;> first | rfl | exact absurd rfl h1

/-- C17 in its own words: every setting reads back what was last written to that very key since initialisation
(thresholds clamped to 2), and starts as (off, 0, off) -/
theorem C17_worded (cfg : Cfg) (ops : List Op) (t : TextId) (k : BlockType) :
    (run cfg ops).set.corr t k = lastCorr t k ops ∧ (run cfg ops).set.prog t = lastProg t ops ∧
    (run cfg ops).set.ext = lastExt ops := by
  induction ops using List.snoc_ind with
  | nil => exact ⟨Settings.init_corr t k, Settings.init_prog t, rfl⟩
  | snoc l a ih =>
    obtain ⟨i1, i2, i3⟩ := ih
    rw [run_snoc, step_set]
    simp only [lastCorr, lastProg, lastExt, List.foldl_append]
    cases a with
    | init => exact ⟨Settings.init_corr t k, Settings.init_prog t, rfl⟩
    | setExt v => exact ⟨(Settings.setExt_corr _ v t k).trans i1, (Settings.setExt_prog _ v t).trans i2, rfl⟩
    | setCorr t' k' v =>
      exact ⟨by rw [Settings.setCorr_corr, i1]; rfl, (Settings.setCorr_prog _ t' k' v t).trans i2,
        (Settings.setCorr_ext _ t' k' v).trans i3⟩
    | setProg t' v =>
      exact ⟨(Settings.setProg_corr _ t' v t k).trans i1, by rw [Settings.setProg_prog, i2]; rfl,
        (Settings.setProg_ext _ t' v).trans i3⟩
    | _ => exact ⟨i1, i2, i3⟩

/-- non-vacuity: on a state full of decoded data each setter really changes its key (so the frame is not `s = s`),
and the clamp is visible -/
example :
    let g : Group := ⟨0x1234, 0x0408 ||| (5 <<< 5), 0x5A01, 0x4142, 0, 0, 0, 0⟩
    (run afr_cfg [.parse g, .setCorr .rt .data 200]).set.rtData = 2 ∧
    (run afr_cfg [.parse g, .setCorr .rt .data 200]) ≠ (run afr_cfg [.parse g]) ∧
    (run afr_cfg [.parse g, .setCorr .rt .data 200]).used.pi = 0x1234 ∧
    (run afr_cfg [.parse g, .setExt true]).set.ext = true ∧
    (run afr_cfg [.parse g, .setProg .ps true]).set.progPs = true := by
  decide +kernel

example : afr_SettingsOp (.setCorr .rt .data 200) ∧ afr_SettingsOp (.setExt true) ∧
    afr_SettingsOp (.setProg .ps true) ∧ afr_SettingsOp (.register .pi true) ∧ afr_SettingsOp (.userData 5) ∧
    afr_SettingsOp .getters := ⟨trivial, trivial, trivial, trivial, trivial, trivial⟩

end RDS

#print axioms RDS.C01_received_nonneg
#print axioms RDS.C01_never_unknown_step
#print axioms RDS.C01_never_unknown_getter
#print axioms RDS.C01_never_unknown_getter_suffix
#print axioms RDS.C11_frame
#print axioms RDS.C11_frame_step
#print axioms RDS.C11_frame_history
#print axioms RDS.C17_settings_frame
#print axioms RDS.C17_setExt_only
#print axioms RDS.C17_setCorr_only
#print axioms RDS.C17_setProg_only
#print axioms RDS.C17_other_keep_settings
#print axioms RDS.C17_settings_frame_history
#print axioms RDS.C10_monotone
#print axioms RDS.C17_worded
