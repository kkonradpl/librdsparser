import RdsC
import RdsModel.Groups
import RdsProofs.C12Calendar
/-!
# RdsProofs.TransBits — the bit-field getters, `af.c`, `ct.c` and `calculate_error` of the translated C

Each theorem equates a function of the generated `RdsC/Translated.lean` (the C source seen through `tools/c2lean.py`)
with the expression the model (`RdsModel/*`) uses. The getters of `group*.c` / `parser.c` are mask-and-shift = `/`,`%`
for all naturals, each an instance of a field lemma of `RdsC/Prelude.lean`. The other results carry the bound under
which the C arithmetic does not wrap: `calculate_error` exactly when `2*ei + 3*ed < 256`; `ct_init` for hour < 32,
minute < 64, |offset| ≤ 31, mjd < 2^17 (what the 4A fields can hold, `ctFields_range`); the MJD and hour getters for
16-bit blocks. The AF bitmap (26 bytes, MSB first) is read as the model's 208 booleans through `bitsOf`.
Where C has two usual spellings of one expression (mask before or after the shift, `/ 8` or `>> 3`) the proof accepts
both, hence the `simp` arguments that the spelling in `/repo/src` leaves unused.
-/

namespace RDS.C

/-- the group as the C API receives it -/
def dataOf (g : Group) : List Int := [(g.a : Int), g.b, g.c, g.d]
def errorsOf (g : Group) : List Int := [(g.ea : Int), g.eb, g.ec, g.ed]

/-- the `flag` argument the dispatcher passes on (`rdsparser_parser_get_flag`) -/
def tg_flag (g : Group) : Int := ((g.b / 2048 % 2 : Nat) : Int)

theorem tg_flag_eq (g : Group) : tg_flag g = b2i g.versionB := by
  unfold tg_flag Group.versionB
  rcases Nat.mod_two_eq_zero_or_one (g.b / 2048) with h | h <;> rw [h] <;> rfl

theorem tg_flag_beq (g : Group) : (tg_flag g == 0) = !g.versionB := by
  rw [tg_flag_eq]; cases g.versionB <;> rfl

end RDS.C

namespace RDS.C.TransBits
open RDS RDS.C

/-! The getters are stated over `dataOf g`, the form in which the handlers meet them (`parser_get_flag_model` and
`ctFields_eq`, which no proof uses, spell the list out). -/

section getters

theorem d0 (w x y z : Int) : [w, x, y, z].getD 0 0 = w := rfl
theorem d1 (w x y z : Int) : [w, x, y, z].getD 1 0 = x := rfl
theorem d2 (w x y z : Int) : [w, x, y, z].getD 2 0 = y := rfl
theorem d3 (w x y z : Int) : [w, x, y, z].getD 3 0 = z := rfl

variable (g : Group)

theorem group_get_pi : c_rdsparser_group_get_pi (dataOf g) = (g.a : Int) :=
  rfl

theorem group_get_pty : c_rdsparser_group_get_pty (dataOf g) = ((g.b / 32 % 32 : Nat) : Int) :=
  wrap_shr_band g.b 5 5 8 (by decide)

theorem group_get_tp : c_rdsparser_group_get_tp (dataOf g) = ((g.b / 1024 % 2 : Nat) : Int) :=
  wrap_shr_band g.b 10 1 8 (by decide)

theorem group0_get_ta : c_rdsparser_group0_get_ta (dataOf g) = ((g.b / 16 % 2 : Nat) : Int) :=
  b2i_shr_band g.b 4

theorem group0_get_ms : c_rdsparser_group0_get_ms (dataOf g) = ((g.b / 8 % 2 : Nat) : Int) :=
  b2i_shr_band g.b 3

theorem group0_get_ps_pos : c_rdsparser_group0_get_ps_pos (dataOf g) = ((g.b % 4 : Nat) : Int) :=
  wrap_band_low g.b 2 8 (by decide)

theorem group0a_get_af1 : c_rdsparser_group0a_get_af1 (dataOf g) = ((g.c / 256 % 256 : Nat) : Int) :=
  (congrArg u8 (shr_lit g.c 8)).trans (u8_nat _)

theorem group0a_get_af2 : c_rdsparser_group0a_get_af2 (dataOf g) = ((g.c % 256 : Nat) : Int) :=
  u8_nat g.c

theorem group1a_get_variant : c_rdsparser_group1a_get_variant (dataOf g) = ((g.c / 4096 % 8 : Nat) : Int) :=
  wrap_shr_band g.c 12 3 8 (by decide)

theorem group1a0_get_ecc : c_rdsparser_group1a0_get_ecc (dataOf g) = ((g.c % 256 : Nat) : Int) :=
  u8_nat g.c

theorem group2_get_rt_pos : c_rdsparser_group2_get_rt_pos (dataOf g) = ((g.b % 16 : Nat) : Int) :=
  wrap_band_low g.b 4 8 (by decide)

theorem group2_get_rt_flag : c_rdsparser_group2_get_rt_flag (dataOf g) = ((g.b / 16 % 2 : Nat) : Int) :=
  b2i_shr_band g.b 4

theorem group10a_get_ptyn_pos : c_rdsparser_group10a_get_ptyn_pos (dataOf g) = ((g.b % 2 : Nat) : Int) :=
  wrap_band_low g.b 1 8 (by decide)

theorem parser_get_group : c_rdsparser_parser_get_group (dataOf g) = (g.type : Int) :=
  wrap_shr_band g.b 12 4 8 (by decide)

theorem parser_get_flag : c_rdsparser_parser_get_flag (dataOf g) = tg_flag g :=
  wrap_shr_band g.b 11 1 32 (by decide)

theorem parser_get_flag_model (g : Group) :
    (c_rdsparser_parser_get_flag [(g.a : Int), g.b, g.c, g.d] == 1) = g.versionB := by
  rw [show [(g.a : Int), g.b, g.c, g.d] = dataOf g from rfl, parser_get_flag, tg_flag_eq]
  cases g.versionB <;> rfl

/-- mask-then-shift, `(d & 0xFC0) >> 6` (as in `group4.c`), or shift-then-mask, `(d >> 6) & 0x3F` -/
theorem group4a_get_minute : c_rdsparser_group4a_get_minute (dataOf g) = ((ctFields g).2.2.1 : Int) := by
  first | exact wrap_shr_band g.d 6 6 8 (by decide) | exact wrap_band_shr g.d 6 6 8 (by decide)

-- `h2'` serves the spelling without the mask only
set_option linter.unusedSimpArgs false in
theorem group4a_get_hour (hd : g.d < 65536) :
    c_rdsparser_group4a_get_hour (dataOf g) = ((ctFields g).2.1 : Int) := by
  have h1 : band (g.c : Int) 1 = ((g.c % 2 : Nat) : Int) := band_low g.c 1
  have h2 : shr (band (g.d : Int) 61440) 12 = ((g.d / 4096 % 16 : Nat) : Int) := shr_band_field g.d 12 4
  -- block D is a uint16_t, so the mask before the shift may be omitted (`d >> 12`)
  have h2' : shr (g.d : Int) 12 = ((g.d / 4096 % 16 : Nat) : Int) :=
    (shr_lit g.d 12).trans (congrArg _ (Nat.mod_eq_of_lt (Nat.div_lt_of_lt_mul hd)).symm)
  simp (disch := omega) only [c_rdsparser_group4a_get_hour, dataOf, d2, d3, h1, h2, h2', shl_lit, bor_natCast, nat_or_shl,
    u8_natCast_of_lt]
  rfl

theorem group4a_get_mjd (hc : g.c < 65536) :
    c_rdsparser_group4a_get_mjd (dataOf g) = ((ctFields g).1 : Int) := by
  have h1 : band (g.b : Int) 3 = ((g.b % 4 : Nat) : Int) := band_low g.b 2
  simp (disch := omega) only [c_rdsparser_group4a_get_mjd, dataOf, d1, d2, h1, shl_lit, shr_lit, bor_natCast, nat_or_shl,
    u32_natCast_of_lt]
  rfl

theorem group4a_get_time_offset : c_rdsparser_group4a_get_time_offset (dataOf g) = (ctFields g).2.2.2 := by
  show _ = if g.d / 32 % 2 = 1 then -((g.d % 32 : Nat) : Int) else ((g.d % 32 : Nat) : Int)
  have h1 : band (g.d : Int) 31 = ((g.d % 32 : Nat) : Int) := band_low g.d 5
  have h2 : band (g.d : Int) 32 = ((g.d / 32 % 2 * 32 : Nat) : Int) := band_field g.d 5 1
  have h3 : i8 ((g.d % 32 : Nat) : Int) = ((g.d % 32 : Nat) : Int) := i8_natCast_of_lt (by omega)
  simp only [c_rdsparser_group4a_get_time_offset, dataOf, d3, h1, h2, h3]
  rcases Nat.mod_two_eq_zero_or_one (g.d / 32) with h | h
  · rw [h]; exact h3
  · rw [h]; exact i8_of_range (by omega) (by omega)

theorem ctFields_eq (g : Group) (hc : g.c < 65536) (hd : g.d < 65536) :
    let data := [(g.a : Int), g.b, g.c, g.d]
    ((c_rdsparser_group4a_get_mjd data, c_rdsparser_group4a_get_hour data,
      c_rdsparser_group4a_get_minute data, c_rdsparser_group4a_get_time_offset data) :
        Int × Int × Int × Int) =
      (((ctFields g).1 : Int), ((ctFields g).2.1 : Int), ((ctFields g).2.2.1 : Int), (ctFields g).2.2.2) := by
  simp only [show [(g.a : Int), g.b, g.c, g.d] = dataOf g from rfl, group4a_get_mjd g hc, group4a_get_hour g hd,
    group4a_get_minute, group4a_get_time_offset]

/-- the four fields are in the ranges `ct_init_eq` asks for -/
theorem ctFields_range (g : Group) (hc : g.c < 65536) :
    (ctFields g).1 < 131072 ∧ (ctFields g).2.1 < 32 ∧ (ctFields g).2.2.1 < 64 ∧
      -31 ≤ (ctFields g).2.2.2 ∧ (ctFields g).2.2.2 ≤ 31 := by
  simp only [ctFields]
  refine ⟨by omega, by omega, by omega, ?_⟩
  split <;> omega

end getters

/-- The C function computes `2*ei + 3*ed` in `uint8_t`; it is the model's `calcError` exactly
when that sum does not wrap. -/
theorem calculate_error_iff (ei ed : Nat) :
    c_rdsparser_string_calculate_error ei ed = (calcError ei ed : Int) ↔ 2 * ei + 3 * ed < 256 := by
  unfold c_rdsparser_string_calculate_error calcError u8
  have hn : 2 * (ei : Int) + 3 * (ed : Int) = ((2 * ei + 3 * ed : Nat) : Int) := by omega
  rw [hn]
  generalize 2 * ei + 3 * ed = n
  by_cases h0 : n = 0
  · simp [h0]
  · by_cases hw : (n : Int) % 256 = 0
    · simp only [hw, bne_self_eq_false, Bool.false_eq_true, if_false, h0]
      constructor <;> intro _ <;> omega
    · simp [hw, h0]
      constructor <;> intro _ <;> omega

theorem calculate_error_eq (ei ed : Nat) (h : 2 * ei + 3 * ed < 256) :
    c_rdsparser_string_calculate_error ei ed = (calcError ei ed : Int) :=
  (calculate_error_iff ei ed).2 h

/-- on the block error codes 0..3 that the library receives -/
theorem calculate_error_codes (ei ed : Nat) (hi : ei ≤ 3) (hd : ed ≤ 3) :
    c_rdsparser_string_calculate_error ei ed = (calcError ei ed : Int) :=
  calculate_error_eq ei ed (by omega)

/-- bit `v` (an AF code) of the 26-byte MSB-first bitmap -/
def bitOf (bytes : List Int) (v : Nat) : Bool := (bytes.getD (v / 8) 0).toNat.testBit (7 - v % 8)

/-- the bitmap as the model's list of 208 booleans indexed by AF code -/
def bitsOf (bytes : List Int) : List Bool := (List.range 208).map (bitOf bytes)

theorem bitsOf_length (bytes : List Int) : (bitsOf bytes).length = 208 := by simp [bitsOf]

theorem bitsOf_getD (bytes : List Int) (v : Nat) (h : v < 208) :
    (bitsOf bytes).getD v false = bitOf bytes v := by
  simp [bitsOf, List.getD_eq_getElem?_getD, List.getElem?_map, List.getElem?_range h]

theorem af_pos (v : Nat) (hv : v ≤ 204) : u8 (Int.tdiv (v : Int) 8) = ((v / 8 : Nat) : Int) :=
  (congrArg u8 ((tdiv_of_nonneg 8 (Int.natCast_nonneg v)).trans (Int.natCast_ediv v 8).symm)).trans
    (u8_natCast_of_lt (by omega))
theorem af_bit (v : Nat) : u8 (Int.tmod (v : Int) 8) = ((v % 8 : Nat) : Int) :=
  (congrArg u8 ((tmod_of_nonneg 8 (Int.natCast_nonneg v)).trans (Int.natCast_emod v 8).symm)).trans
    (u8_natCast_of_lt (by omega))

/-- the same two quantities written with shift and mask (`value >> 3`, `value & 7`) -/
theorem af_pos_shr (v : Nat) (hv : v ≤ 204) : u8 (shr (v : Int) 3) = ((v / 8 : Nat) : Int) :=
  (congrArg u8 (shr_lit v 3)).trans (u8_natCast_of_lt (by omega))
theorem af_bit_band (v : Nat) : u8 (band (v : Int) 7) = ((v % 8 : Nat) : Int) :=
  wrap_band_low v 3 8 (by decide)

theorem shr128_int (k : Nat) (hk : k < 8) : shr 128 (k : Int) = ((2 ^ (7 - k) : Nat) : Int) := by
  have h128 : 128 = 2 ^ (7 - k) * 2 ^ k := by rw [← Nat.pow_add, Nat.sub_add_cancel (by omega)]
  show shr ((128 : Nat) : Int) (k : Int) = _
  rw [shr_natCast, Nat.shiftRight_eq_div_pow, h128, Nat.mul_div_cancel _ (Nat.two_pow_pos k)]

theorem af_valid_int (v : Nat) :
    (decide (1 ≤ (v : Int)) && decide ((v : Int) ≤ 204)) = afValid v := by
  have h1 : decide (1 ≤ (v : Int)) = decide (1 ≤ v) := by apply decide_eq_decide.2; omega
  have h2 : decide ((v : Int) ≤ 204) = decide (v ≤ 204) := by apply decide_eq_decide.2; omega
  rw [h1, h2]; rfl

-- `af_pos_shr`, `af_bit_band` serve the shift-and-mask spelling only
set_option linter.unusedSimpArgs false in
theorem af_get_eq (af : C_rdsparser_af) (v : Nat) :
    c_rdsparser_af_get af v = b2i (afGet (bitsOf af.buffer) v) := by
  unfold c_rdsparser_af_get afGet
  rw [af_valid_int]
  cases hval : afValid v
  · simp
  · have hv : 1 ≤ v ∧ v ≤ 204 := by simpa [afValid] using hval
    simp only [if_true, Bool.true_and, af_pos v hv.2, af_bit, af_pos_shr v hv.2, af_bit_band, getI_natCast,
      shr128_int (v % 8) (by omega), band_natR, natCast_bne_zero, and_two_pow_ne_zero, bitsOf_getD _ v (by omega), bitOf]

/-- the byte `rdsparser_af_set` stores -/
def setByte (x : Int) (k : Nat) : Int := u8 (bor x ((2 ^ (7 - k) : Nat) : Int))

theorem setByte_testBit (x : Int) (k j : Nat) (hj : j < 8) :
    (setByte x k).toNat.testBit j = (x.toNat.testBit j || decide (7 - k = j)) := by
  unfold setByte
  rw [bor_natR, u8_nat, Int.toNat_natCast]
  show ((x.toNat ||| 2 ^ (7 - k)) % 2 ^ 8).testBit j = _
  rw [Nat.testBit_mod_two_pow, Nat.testBit_or, Nat.testBit_two_pow]
  simp [hj]

theorem bitOf_set (buf : List Int) (v i : Nat) (hv : v / 8 < buf.length) :
    bitOf (buf.set (v / 8) (setByte (buf.getD (v / 8) 0) (v % 8))) i =
      (if v = i then true else bitOf buf i) := by
  unfold bitOf
  by_cases hb : v / 8 = i / 8
  · rw [← hb, List.getD_eq_getElem?_getD, List.getElem?_set_self hv, Option.getD_some, setByte_testBit _ _ _ (by omega)]
    by_cases hvi : v = i
    · rw [if_pos hvi, hvi, decide_eq_true rfl, Bool.or_true]
    · rw [if_neg hvi, decide_eq_false (by omega), Bool.or_false]
  · rw [List.getD_eq_getElem?_getD, List.getElem?_set_ne hb, ← List.getD_eq_getElem?_getD,
      if_neg fun h => hb (congrArg (· / 8) h)]

theorem bitsOf_set (buf : List Int) (v : Nat) (hv : v / 8 < buf.length) :
    bitsOf (buf.set (v / 8) (setByte (buf.getD (v / 8) 0) (v % 8))) = (bitsOf buf).set v true := by
  apply List.ext_getElem
  · simp [bitsOf]
  · intro i h1 h2
    have hi : i < 208 := by simpa [bitsOf] using h1
    simp only [bitsOf, List.getElem_map, List.getElem_range, List.getElem_set, bitOf_set buf v i hv]

-- `af_pos_shr`, `af_bit_band`, `hu` serve the shift-and-mask spelling only
set_option linter.unusedSimpArgs false in
theorem af_set_eq (af : C_rdsparser_af) (v : Nat) (hlen : af.buffer.length = 26) :
    (c_rdsparser_af_set af v).1 = b2i (afSet (bitsOf af.buffer) v).2 ∧
    bitsOf (c_rdsparser_af_set af v).2.buffer = (afSet (bitsOf af.buffer) v).1 ∧
    (c_rdsparser_af_set af v).2.buffer.length = 26 := by
  unfold c_rdsparser_af_set afSet
  rw [af_valid_int]
  cases hval : afValid v
  · simp [hlen]
  · have hv : 1 ≤ v ∧ v ≤ 204 := by simpa [afValid] using hval
    -- the mask `128 >> bit` may also be stored in a `uint8_t` first
    have hu : u8 (((2 ^ (7 - v % 8) : Nat) : Int)) = ((2 ^ (7 - v % 8) : Nat) : Int) :=
      u8_natCast_of_lt (Nat.lt_of_le_of_lt (Nat.pow_le_pow_right (by decide) (Nat.sub_le 7 _)) (by decide))
    have hbyte : u8 (bor (getI af.buffer ((v / 8 : Nat) : Int)) (((2 ^ (7 - v % 8) : Nat) : Int))) =
        setByte (af.buffer.getD (v / 8) 0) (v % 8) := by rw [getI_natCast]; rfl
    simp only [if_true, af_pos v hv.2, af_bit, af_pos_shr v hv.2, af_bit_band, shr128_int (v % 8) (by omega), hu, hbyte, listSet_natCast,
      bitsOf_set af.buffer v (by omega), List.length_set, hlen, b2i_true, and_self]

/-! `rdsparser_ct_init`. The model's `ctInit` is two carries (minutes into hours, hours into days) and `civilFromDays`; the
C function is the same computation with conversions to `int8_t`/`uint8_t` and truncating division. The translated
function is unfolded once, its locals become local definitions, and each is shown equal to the model's value. -/

/-- one carry step as `ct.c` writes it: a digit that left `[0, B)` by less than `B` comes back -/
theorem ct_carry (B x : Int) (hB : 0 < B ∧ B ≤ 64) (hx : -B ≤ x ∧ x < 2 * B) :
    (if B ≤ x then i8 (Int.tmod x B) else if x < 0 then i8 (B + x) else x) =
      if B ≤ x then x - B else if x < 0 then B + x else x := by
  split
  · have a : Int.tmod x B = x - B := by
      rw [tmod_of_nonneg _ (by omega), ← Int.sub_emod_right, Int.emod_eq_of_lt (by omega) (by omega)]
    rw [a]; exact i8_of_range (by omega) (by omega)
  · split
    · exact i8_of_range (by omega) (by omega)
    · rfl

/-- The date part of `rdsparser_ct_init` (hypotheses `g1 … g5`: the five locals as `ct.c` computes them, with C's
truncating division) is `civilFromDays`: every numerator is non-negative, and month, day and year fit their fields. -/
theorem ct_date (z era doe yoe doy mp : Int) (hz : 0 ≤ z) (hz1 : z < 1000000)
    (g1 : era = Int.tdiv z 146097) (g2 : doe = Int.tmod z 146097)
    (g3 : yoe = Int.tdiv (doe - Int.tdiv doe 1460 + Int.tdiv doe 36524 - Int.tdiv doe 146096) 365)
    (g4 : doy = doe - (365 * yoe + Int.tdiv yoe 4 - Int.tdiv yoe 100)) (g5 : mp = Int.tdiv (5 * doy + 2) 153) :
    let m := u8 (if mp < 10 then mp + 3 else mp - 9)
    (u16 (yoe + era * 400 + if m ≤ 2 then 1 else 0), m, u8 (doy - Int.tdiv (153 * mp + 2) 5 + 1)) =
      civilFromDays z := by
  rw [tdiv_of_nonneg _ hz] at g1
  rw [tmod_of_nonneg _ hz] at g2
  have hera : 0 ≤ era ∧ era ≤ 6 := by omega
  have hd : 0 ≤ doe ∧ doe < 146097 := by omega
  clear hz hz1
  simp only [tdiv_of_nonneg _ hd.1] at g3
  rw [tdiv_of_nonneg _ (by clear g1 g2 g3 g4 g5 hera; omega)] at g3
  obtain ⟨hy0, hy1, hy2, hy3⟩ := C12.yoeI_bracket doe hd.1 hd.2
  simp only [C12.yoeI, C12.fnI, C12.ysI, ← g3] at hy0 hy1 hy2 hy3
  simp only [tdiv_of_nonneg _ hy0] at g4
  have hdoy : 0 ≤ doy ∧ doy ≤ 366 := by clear g1 g2 g3; omega
  clear hy2 hy3
  rw [tdiv_of_nonneg _ (by omega)] at g5
  have hmp : 0 ≤ mp ∧ mp ≤ 11 := by clear g1 g2 g3 g4 hy0 hy1 hd hera; omega
  rw [tdiv_of_nonneg _ (by omega : 0 ≤ 153 * mp + 2)]
  simp only [civilFromDays, ← g1, ← g2, ← g3, ← g4, ← g5]
  clear g1 g2 g3 g4 hd
  generalize hm : (if mp < 10 then mp + 3 else mp - 9) = m
  rw [u8_of_range (by omega) (by omega : m < 256), u8_of_range (by omega) (by omega : doy - (153 * mp + 2) / 5 + 1 < 256),
    u16_of_range (by omega) (by omega), Prod.mk.injEq]
  exact ⟨by omega, rfl⟩

theorem ct_init_eq (ct : C_rdsparser_ct) (mjd hour minute : Nat) (off : Int)
    (hh : hour < 32) (hm : minute < 64) (ho : -31 ≤ off ∧ off ≤ 31) (hj : mjd < 131072) :
    c_rdsparser_ct_init ct mjd hour minute off =
      match ctInit mjd hour minute off with
      | none => ((0 : Int), ct)
      | some v => ((1 : Int), ⟨v.year, v.month, v.day, v.hour, v.minute, off⟩) := by
  by_cases hr : hour < 24 ∧ minute < 60
  · have h1 : (decide (24 ≤ (hour : Int)) || decide (60 ≤ (minute : Int))) = false := by
      simp; omega
    have h2 : (decide (24 ≤ hour) || decide (60 ≤ minute)) = false := by
      simp; omega
    obtain ⟨hoff, htr⟩ := C12.tdm2 off
    have htm : -1 ≤ off.tmod 2 ∧ off.tmod 2 ≤ 1 := by omega
    have htd : -16 ≤ off.tdiv 2 ∧ off.tdiv 2 ≤ 16 := by omega
    clear hoff htr ho
    -- first the locals of the translated function, in the order of the generated text (a local added to `ct.c` shifts
    -- these names and no others), then those of the model's `ctInit`
    unfold c_rdsparser_ct_init
    rw [if_neg (by rw [h1]; exact Bool.false_ne_true)]
    extract_lets days min1 hUp mUp hDn mDn t1 t1h t1m t2 hr2 min2 hr3 dUp hUp2 dDn hDn2 t3 t3h t3d t4 hr4 days4 z
      era doe yoe doy mp c1 c2 c3 c4 c5 c6
    unfold ctInit
    rw [if_neg (by rw [h2]; exact Bool.false_ne_true)]
    extract_lets m0 h0 m1 h1' day h2' ymd
    -- the time of day: two carries
    obtain ⟨b1, b2, b3, b4, -⟩ := C12.carry 60 m0 hour (by omega) (by omega)
    have e1 : min1 = m0 := i8_of_range (by omega) (by omega)
    have e2 : min2 = m1 := by
      simp only [min2, t2, t1m, t1, mUp, mDn, apply_ite Prod.snd, decide_eq_true_eq, e1]
      exact ct_carry 60 m0 (by omega) (by omega)
    have e3 : hr2 = h0 := by
      simp (disch := omega) only [hr2, t2, t1h, t1, hUp, hDn, apply_ite Prod.fst, decide_eq_true_eq, e1, i8_of_range]
      rfl
    obtain ⟨b5, b6, b7, b8, -⟩ := C12.carry 24 h1' mjd (by omega) (by omega)
    have e4 : hr3 = h1' := by
      simp only [hr3, e3]; exact i8_of_range (by omega) (by omega)
    have e5 : hr4 = h2' := by
      simp only [hr4, t4, t3h, t3, hUp2, hDn2, apply_ite Prod.fst, decide_eq_true_eq, e4]
      exact ct_carry 24 h1' (by omega) (by omega)
    have e6 : days4 = day := by
      simp (disch := omega) only [days4, t4, t3d, t3, dUp, dDn, days, apply_ite Prod.snd, decide_eq_true_eq, e4,
        i32_of_range]
      rfl
    have hz : 0 ≤ z ∧ z < 1000000 := by simp only [z, e6]; omega
    have ez : day + 678881 = z := by simp only [z, e6]
    have hh2 : 0 ≤ h2' ∧ h2' < 256 := by omega
    have hm1 : 0 ≤ m1 ∧ m1 < 256 := by omega
    simp only [c6, c5, c4, c3, c2, c1, e5, e2, ymd, ez]
    have hc := ct_date z era doe yoe doy mp hz.1 hz.2 rfl rfl rfl rfl rfl
    simp only [decide_eq_true_eq, ← hc, u8_of_range hh2.1 hh2.2, u8_of_range hm1.1 hm1.2]
  · have h1 : (decide (24 ≤ (hour : Int)) || decide (60 ≤ (minute : Int))) = true := by
      simp; omega
    simp only [c_rdsparser_ct_init, h1, if_true, ctInit_reject mjd hour minute off hr]

theorem ctInit_offsetMin (mjd hour minute : Nat) (off : Int) (v : CtVal) (hv : ctInit mjd hour minute off = some v) :
    v.offsetMin = off * 30 := by
  by_cases h : (decide (24 ≤ hour) || decide (60 ≤ minute)) = true
  · rw [ctInit, if_pos h] at hv; cases hv
  · rw [ctInit, if_neg h] at hv; exact Option.some.inj hv ▸ rfl

theorem ct_init_getters (ct : C_rdsparser_ct) (mjd hour minute : Nat) (off : Int)
    (hh : hour < 32) (hm : minute < 64) (ho : -31 ≤ off ∧ off ≤ 31) (hj : mjd < 131072)
    (v : CtVal) (hv : ctInit mjd hour minute off = some v) :
    let r := c_rdsparser_ct_init ct mjd hour minute off
    r.1 = 1 ∧ c_rdsparser_ct_get_year r.2 = v.year ∧ c_rdsparser_ct_get_month r.2 = v.month ∧
    c_rdsparser_ct_get_day r.2 = v.day ∧ c_rdsparser_ct_get_hour r.2 = v.hour ∧
    c_rdsparser_ct_get_minute r.2 = v.minute ∧ c_rdsparser_ct_get_offset r.2 = v.offsetMin := by
  have h := ct_init_eq ct mjd hour minute off hh hm ho hj
  rw [hv] at h
  have ho' := ctInit_offsetMin mjd hour minute off v hv
  simp only [h, c_rdsparser_ct_get_year, c_rdsparser_ct_get_month, c_rdsparser_ct_get_day,
    c_rdsparser_ct_get_hour, c_rdsparser_ct_get_minute, c_rdsparser_ct_get_offset, ho']
  refine ⟨trivial, trivial, trivial, trivial, trivial, trivial, ?_⟩
  apply i16_of_range <;> omega

end RDS.C.TransBits

#print axioms RDS.C.TransBits.group_get_pi
#print axioms RDS.C.TransBits.group_get_pty
#print axioms RDS.C.TransBits.group_get_tp
#print axioms RDS.C.TransBits.group0_get_ta
#print axioms RDS.C.TransBits.group0_get_ms
#print axioms RDS.C.TransBits.group0_get_ps_pos
#print axioms RDS.C.TransBits.group0a_get_af1
#print axioms RDS.C.TransBits.group0a_get_af2
#print axioms RDS.C.TransBits.group1a_get_variant
#print axioms RDS.C.TransBits.group1a0_get_ecc
#print axioms RDS.C.TransBits.group2_get_rt_pos
#print axioms RDS.C.TransBits.group2_get_rt_flag
#print axioms RDS.C.TransBits.group10a_get_ptyn_pos
#print axioms RDS.C.TransBits.parser_get_group
#print axioms RDS.C.TransBits.parser_get_flag
#print axioms RDS.C.TransBits.parser_get_flag_model
#print axioms RDS.C.TransBits.group4a_get_minute
#print axioms RDS.C.TransBits.group4a_get_hour
#print axioms RDS.C.TransBits.group4a_get_mjd
#print axioms RDS.C.TransBits.group4a_get_time_offset
#print axioms RDS.C.TransBits.ctFields_eq
#print axioms RDS.C.TransBits.calculate_error_iff
#print axioms RDS.C.TransBits.calculate_error_eq
#print axioms RDS.C.TransBits.calculate_error_codes
#print axioms RDS.C.TransBits.af_get_eq
#print axioms RDS.C.TransBits.af_set_eq
#print axioms RDS.C.TransBits.ct_init_eq
#print axioms RDS.C.TransBits.ct_init_getters
