import RdsProofs.Sim
import RdsProofs.Inv
import RdsSpec.Worded
/-!
# RdsProofs.MonGroup — what `Mon.group` does, field by field

Two forms of `Mon.group`. As the arrangement of pieces that `process` is (`monPieces`, `Mon.group_eq`), each piece a
reception `recvF` / `afRecv`: the `Link` proof follows the model through it piece by piece. And as a straight line
without case distinction (`Mon.group_nf`): the selectors of RdsSpec/Worded.lean carry the same conditions as the
nested `if`s, so every field is offered its selector's value (`recvO`), the AF counts are bumped by `afCodes`, the
country is looked up when `selEcc` fires; every projection of `Mon.group` is read off this form. `Mon.step` by the kind
of call is `Mon.step_group`, `Mon.step_quiet`. The same selectors read on the model's side give `process_ind` (last
section): what survives the receptions they offer survives `process`.
-/
namespace RDS

def Mon.setFld (m : Mon) (f : Fld) (a : AFld) : Mon :=
  match f with
  | .pi => { m with pi := a } | .pty => { m with pty := a } | .tp => { m with tp := a }
  | .ta => { m with ta := a } | .ms => { m with ms := a } | .ecc => { m with ecc := a }
  | .country => { m with country := a }

def Mon.recvF (m : Mon) (f : Fld) (v : Int) : Mon := m.setFld f ((m.fld f).recv m.ext v)

theorem Mon.setFld_anyRecv (m : Mon) (f : Fld) (a : AFld) (h : a.last.isSome = true) :
    (m.setFld f a).anyRecv = true := by
  cases f <;> simp [Mon.setFld, Mon.anyRecv, h]

section recvF
variable (m : Mon) (f : Fld) (v : Int)
@[simp] theorem Mon.recvF_ext : (m.recvF f v).ext = m.ext := by cases f <;> rfl
@[simp] theorem Mon.recvF_clean : (m.recvF f v).clean = m.clean := by cases f <;> rfl
@[simp] theorem Mon.recvF_set : (m.recvF f v).set = m.set := by cases f <;> rfl
@[simp] theorem Mon.recvF_cbs : (m.recvF f v).cbs = m.cbs := by cases f <;> rfl
@[simp] theorem Mon.recvF_ud : (m.recvF f v).ud = m.ud := by cases f <;> rfl
@[simp] theorem Mon.recvF_lastFlag : (m.recvF f v).lastFlag = m.lastFlag := by cases f <;> rfl
@[simp] theorem Mon.recvF_afCount : (m.recvF f v).afCount = m.afCount := by cases f <;> rfl
@[simp] theorem Mon.recvF_fld_same : (m.recvF f v).fld f = (m.fld f).recv m.ext v := by cases f <;> rfl
theorem Mon.recvF_fld_ne (f' : Fld) (h : f' ≠ f) : (m.recvF f v).fld f' = m.fld f' := by
  cases f <;> cases f' <;> first | rfl | exact absurd rfl h
@[simp] theorem Mon.recvF_anyRecv : (m.recvF f v).anyRecv = true := by
  apply Mon.setFld_anyRecv
  simp only [AFld.recv]; split <;> rfl
end recvF

def afBump (c : List Nat) (v : Nat) : List Nat := if afValid v then c.set v (c.getD v 0 + 1) else c

section afRecv
variable (m : Mon) (v : Nat)
@[simp] theorem Mon.afRecv_ext : (m.afRecv v).ext = m.ext := by unfold Mon.afRecv; split <;> rfl
@[simp] theorem Mon.afRecv_clean : (m.afRecv v).clean = m.clean := by unfold Mon.afRecv; split <;> rfl
@[simp] theorem Mon.afRecv_set : (m.afRecv v).set = m.set := by unfold Mon.afRecv; split <;> rfl
@[simp] theorem Mon.afRecv_cbs : (m.afRecv v).cbs = m.cbs := by unfold Mon.afRecv; split <;> rfl
@[simp] theorem Mon.afRecv_ud : (m.afRecv v).ud = m.ud := by unfold Mon.afRecv; split <;> rfl
@[simp] theorem Mon.afRecv_lastFlag : (m.afRecv v).lastFlag = m.lastFlag := by
  unfold Mon.afRecv; split <;> rfl
@[simp] theorem Mon.afRecv_fld (f : Fld) : (m.afRecv v).fld f = m.fld f := by
  unfold Mon.afRecv; split <;> cases f <;> rfl
theorem Mon.afRecv_afCount : (m.afRecv v).afCount = afBump m.afCount v := by
  unfold Mon.afRecv afBump; split <;> rfl
theorem Mon.afRecv_invalid (h : afValid v = false) : m.afRecv v = m := by
  simp [Mon.afRecv, h]
end afRecv

def monPieces (cfg : Cfg) (g : Group) : Pieces Mon where
  sf := fun f v m => (m.recvF f v, [])
  af := fun v m => (m.afRecv v, [])
  cty := fun m => (m.recvF .country (eccLookupT cfg m.pi.vis (g.c % 256)), [])
  ps := fun m => (m, [])
  g2 := fun m => (if g.eb = 0 then { m with lastFlag := (g.b / 16 % 2 : Nat) } else m, [])
  g4 := fun m => (m, [])
  g10 := fun m => (m, [])

/-- `Mon.group` updates `lastFlag` before it looks at the type; the arrangement does it in the type-2 piece, where
the model does it. Apart from that the two sides are the same text, so once the state after the common part is a
variable each type is closed by its few tests. -/
theorem Mon.group_eq (cfg : Cfg) (m : Mon) (g : Group) :
    m.group cfg g = ((monPieces cfg g).process g m).1 := by
  unfold Mon.group
  extract_lets m1 m2 m3 m4 m5
  have e : m2 = ((monPieces cfg g).common g m).1 := by
    by_cases ha : g.ea = 0 <;> by_cases hb : g.eb = 0 <;>
      simp only [m2, m1, Pieces.common, seq, monPieces, ha, hb, if_true, if_false] <;> rfl
  show _ = ((monPieces cfg g).dispatch g ((monPieces cfg g).common g m).1).1
  rw [← e]
  clear_value m2
  unfold Pieces.dispatch
  have e1 : (g.type = 1 && !g.versionB && g.eb = 0 && g.ec = 0 && g.c / 4096 % 8 = 0) =
      (decide (g.type = 1) && (!g.versionB && g.eb = 0 && g.ec = 0 && g.c / 4096 % 8 = 0)) := by
    simp only [Bool.and_assoc]
  have e3 : ¬ g.type = 2 → m3 = m2 := fun h => if_neg (by simp [h])
  by_cases h0 : g.type = 0
  · have e3 := e3 (by omega)
    clear_value m3; subst e3
    rw [if_pos h0, if_pos h0]
    by_cases hb : g.eb = 0 <;> simp only [m4, Pieces.g0, seq, monPieces, hb, if_true, if_false] <;> split <;> rfl
  rw [if_neg h0, if_neg h0, e1]
  by_cases h1 : g.type = 1
  · have e3 := e3 (by omega)
    clear_value m3; subst e3
    rw [if_pos h1, decide_eq_true h1, Bool.true_and]
    simp only [m5, Pieces.g1, seq, monPieces]
    split <;> rfl
  rw [if_neg h1, decide_eq_false h1, Bool.false_and, if_neg Bool.false_ne_true]
  by_cases h2 : g.type = 2
  · rw [if_pos h2]
    simp only [m3, monPieces, h2, decide_true, Bool.true_and, decide_eq_true_eq]
  · rw [if_neg h2]
    by_cases h4 : g.type = 4 <;> by_cases h10 : g.type = 10 <;> simp only [h4, h10, if_true, if_false, monPieces] <;>
      exact e3 h2

/-- the part of the monitor that receptions leave alone (it changes only in `Mon.step`) -/
def Mon.ctl (m : Mon) : Bool × Bool × Settings × List Bool × Nat := (m.ext, m.clean, m.set, m.cbs, m.ud)

@[simp] theorem Mon.recvF_ctl (m : Mon) (f : Fld) (v : Int) : (m.recvF f v).ctl = m.ctl := by simp [Mon.ctl]
@[simp] theorem Mon.afRecv_ctl (m : Mon) (v : Nat) : (m.afRecv v).ctl = m.ctl := by simp [Mon.ctl]

/-- the country is derived from PI and ECC (`Mon.cty`): it has no selector -/
def Fld.sel : Fld → Group → Option Int
  | .pi => selPi | .pty => selPty | .tp => selTp | .ta => selTa | .ms => selMs | .ecc => selEcc
  | .country => fun _ => none

def AFld.recvO (ext : Bool) (a : AFld) : Option Int → AFld
  | some v => a.recv ext v
  | none => a

def Mon.recvO (m : Mon) (f : Fld) : Option Int → Mon
  | some v => m.recvF f v
  | none => m

/-- the country step of a 1A variant-0 group carrying ECC `e` (an `Int`, the way `selEcc` delivers it) -/
def Mon.cty (cfg : Cfg) (m : Mon) : Option Int → Mon
  | some e => m.recvF .country (eccLookup cfg m.pi.vis e)
  | none => m

def Mon.flagO (m : Mon) : Option Int → Mon
  | some x => { m with lastFlag := x }
  | none => m

def selFlag (g : Group) : Option Int := if g.type = 2 ∧ g.eb = 0 then some ((g.b / 16 % 2 : Nat) : Int) else none

def Mon.afRecvs (m : Mon) (l : List Nat) : Mon := l.foldl Mon.afRecv m

section stages
variable (m : Mon) (f : Fld) (o : Option Int)

@[simp] theorem Mon.recvO_ctl : (m.recvO f o).ctl = m.ctl := by cases o <;> simp [Mon.recvO]
theorem Mon.recvO_ext : (m.recvO f o).ext = m.ext := congrArg (·.1) (m.recvO_ctl f o)
@[simp] theorem Mon.recvO_lastFlag : (m.recvO f o).lastFlag = m.lastFlag := by cases o <;> simp [Mon.recvO]
@[simp] theorem Mon.recvO_afCount : (m.recvO f o).afCount = m.afCount := by cases o <;> simp [Mon.recvO]
theorem Mon.recvO_fld (f' : Fld) :
    (m.recvO f o).fld f' = if f' = f then (m.fld f).recvO m.ext o else m.fld f' := by
  by_cases h : f' = f
  · subst h; rw [if_pos rfl]
    cases o <;> simp [Mon.recvO, AFld.recvO]
  · rw [if_neg h]
    cases o
    · rfl
    · exact Mon.recvF_fld_ne m f _ f' h

variable (cfg : Cfg)
@[simp] theorem Mon.cty_ctl : (m.cty cfg o).ctl = m.ctl := by cases o <;> simp [Mon.cty]
@[simp] theorem Mon.cty_lastFlag : (m.cty cfg o).lastFlag = m.lastFlag := by cases o <;> simp [Mon.cty]
@[simp] theorem Mon.cty_afCount : (m.cty cfg o).afCount = m.afCount := by cases o <;> simp [Mon.cty]
theorem Mon.cty_fld (h : f ≠ .country) : (m.cty cfg o).fld f = m.fld f := by
  cases o
  · rfl
  · exact Mon.recvF_fld_ne m .country _ f h
theorem Mon.cty_country : (m.cty cfg o).country = match o with
    | some e => m.country.recv m.ext (eccLookup cfg m.pi.vis e)
    | none => m.country := by
  cases o
  · rfl
  · exact Mon.recvF_fld_same m .country _

@[simp] theorem Mon.flagO_ctl : (m.flagO o).ctl = m.ctl := by cases o <;> rfl
@[simp] theorem Mon.flagO_afCount : (m.flagO o).afCount = m.afCount := by cases o <;> rfl
@[simp] theorem Mon.flagO_fld : (m.flagO o).fld f = m.fld f := by cases o <;> cases f <;> rfl
theorem Mon.flagO_lastFlag : (m.flagO o).lastFlag = o.getD m.lastFlag := by cases o <;> rfl

theorem Mon.afRecvs_keep {α} (p : Mon → α) (h : ∀ m v, p (m.afRecv v) = p m) (l : List Nat) :
    p (m.afRecvs l) = p m := by
  unfold Mon.afRecvs
  induction l generalizing m with
  | nil => rfl
  | cons a t ih => rw [List.foldl_cons, ih, h]

variable (l : List Nat)
@[simp] theorem Mon.afRecvs_ctl : (m.afRecvs l).ctl = m.ctl := m.afRecvs_keep _ Mon.afRecv_ctl l
@[simp] theorem Mon.afRecvs_lastFlag : (m.afRecvs l).lastFlag = m.lastFlag := m.afRecvs_keep _ Mon.afRecv_lastFlag l
@[simp] theorem Mon.afRecvs_fld : (m.afRecvs l).fld f = m.fld f :=
  m.afRecvs_keep (·.fld f) (fun m v => Mon.afRecv_fld m v f) l
theorem Mon.afRecvs_ext : (m.afRecvs l).ext = m.ext := congrArg (·.1) (m.afRecvs_ctl l)

theorem Mon.afRecvs_afCount : (m.afRecvs l).afCount = l.foldl afBump m.afCount := by
  unfold Mon.afRecvs; induction l generalizing m with
  | nil => rfl
  | cons a t ih => rw [List.foldl_cons, ih, Mon.afRecv_afCount, List.foldl_cons]
end stages

theorem afBump_length (c : List Nat) (v : Nat) : (afBump c v).length = c.length := by
  unfold afBump; split <;> simp

theorem afBump_getD (c : List Nat) (w v : Nat) (hv : afValid v = true) (hl : c.length = afBits) :
    (afBump c w).getD v 0 = c.getD v 0 + (if w = v then 1 else 0) := by
  unfold afBump
  by_cases hwv : w = v
  · subst hwv
    rw [if_pos hv, if_pos rfl, getD_set_self _ _ _ _ (by rw [hl]; exact afValid_lt hv)]
  · rw [if_neg hwv, Nat.add_zero]
    split
    · exact getD_set_ne _ _ _ _ _ hwv
    · rfl

theorem afBump_foldl (l : List Nat) (v : Nat) (hv : afValid v = true) :
    ∀ c : List Nat, c.length = afBits →
      (l.foldl afBump c).length = afBits ∧
      (l.foldl afBump c).getD v 0 = c.getD v 0 + (l.filter (· == v)).length := by
  induction l with
  | nil => intro c hl; exact ⟨hl, rfl⟩
  | cons a t ih =>
    intro c hl
    obtain ⟨h1, h2⟩ := ih (afBump c a) ((afBump_length c a).trans hl)
    rw [List.foldl_cons, h2, afBump_getD c a v hv hl, List.filter_cons]
    refine ⟨h1, ?_⟩
    by_cases hav : a = v <;> simp [hav] <;> omega

theorem monPieces_common (cfg : Cfg) (m : Mon) (g : Group) :
    ((monPieces cfg g).common g m).1 = ((m.recvO .pi (selPi g)).recvO .pty (selPty g)).recvO .tp (selTp g) := by
  unfold Pieces.common seq monPieces selPi selPty selTp
  by_cases ha : g.ea = 0 <;> by_cases hb : g.eb = 0 <;> simp only [ha, hb, if_true, if_false] <;> rfl

theorem afCodes_of_cond (g : Group) (h0 : g.type = 0) :
    afCodes g = if afCondM g then [g.c / 256 % 256, g.c % 256] else [] := by
  unfold afCodes afCondM
  simp [h0, and_assoc]

theorem monPieces_g0 (cfg : Cfg) (m : Mon) (g : Group) (h0 : g.type = 0) :
    ((monPieces cfg g).g0 g m).1 = ((m.recvO .ta (selTa g)).recvO .ms (selMs g)).afRecvs (afCodes g) := by
  rw [afCodes_of_cond g h0]
  unfold Pieces.g0 seq monPieces selTa selMs
  show Prod.fst (if afCondM g then _ else _) = _
  by_cases hb : g.eb = 0 <;> cases afCondM g <;> simp only [h0, hb, true_and, and_false, if_true, if_false] <;> rfl

theorem selEcc_of_cond (g : Group) (h1 : g.type = 1) :
    selEcc g = if eccCondM g then some ((g.c % 256 : Nat) : Int) else none := by
  unfold selEcc eccCondM
  simp [h1, and_assoc]

theorem monPieces_g1 (cfg : Cfg) (m : Mon) (g : Group) (h1 : g.type = 1) :
    ((monPieces cfg g).g1 g m).1 = (m.recvO .ecc (selEcc g)).cty cfg (selEcc g) := by
  rw [selEcc_of_cond g h1]
  unfold Pieces.g1 seq monPieces
  show Prod.fst (if eccCondM g then _ else _) = _
  cases eccCondM g <;> rfl

theorem monPieces_g2 (cfg : Cfg) (m : Mon) (g : Group) (h2 : g.type = 2) :
    ((monPieces cfg g).g2 m).1 = m.flagO (selFlag g) := by
  unfold monPieces selFlag
  by_cases hb : g.eb = 0 <;> simp only [h2, hb, true_and, and_false, if_true, if_false] <;> rfl

theorem selTa_none (g : Group) (h : g.type ≠ 0) : selTa g = none := by simp [selTa, h]
theorem selMs_none (g : Group) (h : g.type ≠ 0) : selMs g = none := by simp [selMs, h]
theorem afCodes_nil (g : Group) (h : g.type ≠ 0) : afCodes g = [] := by simp [afCodes, h]
theorem selEcc_none (g : Group) (h : g.type ≠ 1) : selEcc g = none := by simp [selEcc, h]
theorem selFlag_none (g : Group) (h : g.type ≠ 2) : selFlag g = none := by simp [selFlag, h]

theorem Mon.group_nf (cfg : Cfg) (m : Mon) (g : Group) :
    m.group cfg g =
      ((((((((m.recvO .pi (selPi g)).recvO .pty (selPty g)).recvO .tp (selTp g)).recvO .ta (selTa g)).recvO .ms
        (selMs g)).afRecvs (afCodes g)).recvO .ecc (selEcc g)).cty cfg (selEcc g)).flagO (selFlag g) := by
  rw [Mon.group_eq]
  show ((monPieces cfg g).dispatch g ((monPieces cfg g).common g m).1).1 = _
  rw [monPieces_common]
  generalize ((m.recvO .pi (selPi g)).recvO .pty (selPty g)).recvO .tp (selTp g) = mc
  unfold Pieces.dispatch
  by_cases h0 : g.type = 0
  · rw [if_pos h0, monPieces_g0 cfg mc g h0, selEcc_none g (by omega), selFlag_none g (by omega)]; rfl
  · rw [if_neg h0, selTa_none g h0, selMs_none g h0, afCodes_nil g h0]
    by_cases h1 : g.type = 1
    · rw [if_pos h1, monPieces_g1 cfg mc g h1, selFlag_none g (by omega)]; rfl
    · rw [if_neg h1, selEcc_none g h1]
      by_cases h2 : g.type = 2
      · rw [if_pos h2, monPieces_g2 cfg mc g h2]; rfl
      · rw [if_neg h2, selFlag_none g h2]
        by_cases h4 : g.type = 4 <;> by_cases h10 : g.type = 10 <;> simp only [h4, h10, if_true, if_false] <;> rfl

section group
variable (cfg : Cfg) (m : Mon) (g : Group)

theorem Mon.group_ctl : (m.group cfg g).ctl = m.ctl := by simp [Mon.group_nf]
@[simp] theorem Mon.group_ext : (m.group cfg g).ext = m.ext := congrArg (·.1) (m.group_ctl cfg g)
@[simp] theorem Mon.group_clean : (m.group cfg g).clean = m.clean := congrArg (·.2.1) (m.group_ctl cfg g)
@[simp] theorem Mon.group_set : (m.group cfg g).set = m.set := congrArg (·.2.2.1) (m.group_ctl cfg g)
@[simp] theorem Mon.group_cbs : (m.group cfg g).cbs = m.cbs := congrArg (·.2.2.2.1) (m.group_ctl cfg g)
@[simp] theorem Mon.group_ud : (m.group cfg g).ud = m.ud := congrArg (·.2.2.2.2) (m.group_ctl cfg g)

theorem Mon.group_fld (f : Fld) (hf : f ≠ .country) :
    (m.group cfg g).fld f = (m.fld f).recvO m.ext (f.sel g) := by
  rw [Mon.group_nf, Mon.flagO_fld, Mon.cty_fld _ _ _ _ hf]
  cases f <;>
    first
    | exact absurd rfl hf
    | simp only [Mon.recvO_fld, Mon.afRecvs_fld, Mon.recvO_ext, Mon.afRecvs_ext, reduceCtorEq, if_true, if_false,
        Fld.sel]

theorem Mon.group_lastFlag : (m.group cfg g).lastFlag = (selFlag g).getD m.lastFlag := by
  simp [Mon.group_nf, Mon.flagO_lastFlag]

/-- the PI looked up is the one shown after the group's own block A has been taken in (in the model `groupCommon`
runs before `group1`) -/
theorem Mon.group_country : (m.group cfg g).country = match selEcc g with
    | some e => m.country.recv m.ext (eccLookup cfg (m.pi.recvO m.ext (selPi g)).vis e)
    | none => m.country := by
  rw [Mon.group_nf]
  show ((Mon.flagO _ _).fld .country) = _
  rw [Mon.flagO_fld]
  show (Mon.cty _ _ _).country = _
  rw [Mon.cty_country]
  have hpi : ∀ x : Mon, x.pi = x.fld .pi := fun _ => rfl
  have hc : ∀ x : Mon, x.country = x.fld .country := fun _ => rfl
  simp only [hpi, hc, Mon.recvO_fld, Mon.afRecvs_fld, Mon.recvO_ext, Mon.afRecvs_ext, reduceCtorEq, if_true, if_false]

theorem Mon.group_afCount : (m.group cfg g).afCount = (afCodes g).foldl afBump m.afCount := by
  simp [Mon.group_nf, Mon.afRecvs_afCount]

end group

theorem Mon.step_group (cfg : Cfg) (m : Mon) {op : Op} {g : Group} (hg : op.group? = some g) :
    m.step cfg op = { m.group cfg g with prevGroup := some g } := by
  cases op with
  | parse g' => cases hg; rfl
  | parseString b =>
    cases b with
    | none => cases hg
    | some bytes => have hg' : utilsConvert bytes = some g := hg; simp only [Mon.step, Op.group?, hg']
  | _ => cases hg

def Op.onExt : Op → Bool → Bool
  | .setExt v, _ => v
  | _, e => e

/-- the monitor's side of `step_quiet`; `clean` survives a change of the check mode only while nothing has been
received -/
theorem Op.onSet_ext (op : Op) (x : Settings) : (op.onSet x).ext = op.onExt x.ext := by
  cases op <;> first | rfl | exact Settings.setCorr_ext .. | exact Settings.setProg_ext ..

theorem Mon.step_quiet (cfg : Cfg) (m : Mon) {op : Op} (hg : op.group? = none) (h1 : op ≠ .init) (h2 : op ≠ .clear) :
    m.step cfg op =
      { m with ext := op.onExt m.ext, clean := m.clean && (op.onExt m.ext = m.ext || !m.anyRecv),
               set := op.onSet m.set, cbs := op.onCbs m.cbs, ud := op.onUd m.ud, prevGroup := none } := by
  cases op with
  | init => exact absurd rfl h1
  | clear => exact absurd rfl h2
  | parse g => cases hg
  | parseString b =>
    cases b with
    | none => simp [Mon.step, Op.group?, Op.onExt, Op.onSet, Op.onCbs, Op.onUd]
    | some bytes =>
      have hg' : utilsConvert bytes = none := hg
      simp [Mon.step, Op.group?, hg', Op.onExt, Op.onSet, Op.onCbs, Op.onUd]
  | setExt v => rfl
  | _ => simp [Mon.step, Op.onExt, Op.onSet, Op.onCbs, Op.onUd]

/-! ## `process` by the receptions the selectors offer -/

theorem SfOcc.sel {g : Group} {f : Fld} {v : Int} (h : SfOcc g f v) : f.sel g = some v := by
  cases h with
  | pi ha => exact if_pos ha
  | pty hb => exact if_pos hb
  | tp hb => exact if_pos hb
  | ta h0 hb => exact if_pos ⟨h0, hb⟩
  | ms h0 hb => exact if_pos ⟨h0, hb⟩
  | ecc h1 hg => exact (selEcc_of_cond g h1).trans (if_pos hg)

section
variable (cfg : Cfg) (g : Group) {P : State → Prop}
  (hsf : ∀ f v s, f.sel g = some v → P s → P (setField s f v).1)
  (hcty : ∀ e s, selEcc g = some e → P s → P (setField s .country (eccLookup cfg s.used.pi e)).1)
  (haf : ∀ v s, P s → P (addAf s v).1)
  (hrest : ∀ s s', s'.used = s.used → s'.temp = s.temp → P s → P s')
include hsf hcty haf hrest

theorem leaves_ind : Leaves (fun s (_ : State) => P s) (fun _ _ => True) (pieces cfg g) (pieces cfg g) g where
  ev := .true
  sf := fun f v ho s _ hp => ⟨hsf f v s (ho.sel) hp, trivial⟩
  af := fun v _ s _ hp => ⟨haf v s hp, trivial⟩
  cty := fun h1 hg s _ hp => ⟨hcty _ s ((selEcc_of_cond g h1).trans (if_pos hg)) hp, trivial⟩
  ps := fun _ s _ hp => ⟨hrest s _ rfl rfl hp, trivial⟩
  g2 := fun _ s _ hp => ⟨hrest s _ (congrArg State.used (group2_noTxtLast cfg s g) :) (congrArg State.temp (group2_noTxtLast cfg s g) :) hp, trivial⟩
  g4 := fun _ s _ hp => ⟨(group4_fst s g).symm ▸ hp, trivial⟩
  g10 := fun _ s _ hp => ⟨hrest s _ (congrArg State.used (group10_noTxt cfg s g) :) (congrArg State.temp (group10_noTxt cfg s g) :) hp, trivial⟩

theorem process_ind (s : State) (h : P s) : P (process cfg s g).1 :=
  ((leaves_ind cfg g hsf hcty haf hrest).sim s s h).1

theorem dispatch_ind (s : State) (h : P s) : P (dispatch cfg s g).1 := by
  rw [dispatch_eq_pieces]
  exact ((leaves_ind cfg g hsf hcty haf hrest).dispatch s s h).1
end

end RDS
