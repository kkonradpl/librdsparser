import RdsProofs.WordedBase
import RdsProofs.Toy
/-!
# RdsProofs.WordedProofs — C01, C09, C10 read directly over the call history

`Mon.clean` says that the current check mode has been in force for every reception since the last reset. Whenever it
holds, every field of the monitor is the scan (`AFld.scan`) of the field's reception sequence in the current mode: last
reception in normal mode, two-in-a-row under the extended check (`wd_Inv`). The mode hypotheses of the worded theorems
(`NormalMode`, `ExtendedMode`, `ExtendedMode'`) only serve to make the monitor clean and to fix the mode; the getters
then follow through the refinement `Link`.
-/
namespace RDS

theorem ac09_afRecv_ext (m : Mon) (w : Nat) : (m.afRecv w).ext = m.ext :=
  Mon.afRecv_ext m w

theorem wd_step_init (cfg : Cfg) (m : Mon) : m.step cfg .init = Mon.init := rfl
theorem wd_step_clear (cfg : Cfg) (m : Mon) : m.step cfg .clear = m.reset := rfl

theorem wd_prev_fld (m : Mon) (x : Option Group) (f : Fld) : ({ m with prevGroup := x } : Mon).fld f = m.fld f := by
  cases f <;> rfl

/-- the call leaves an extended-check setting `e` as it is -/
def Op.keepsExt (e : Bool) : Op → Prop
  | .setExt v => v = e
  | .init => e = false
  | _ => True

theorem Op.onExt_of_keepsExt {op : Op} {e : Bool} (h : op.keepsExt e) : op.onExt e = e := by
  cases op <;> first | rfl | exact h

def wd_Inv (cfg : Cfg) (m : Mon) (ops : List Op) : Prop :=
  m.clean = true ∧
  (∀ f, f ≠ .country → m.fld f = AFld.scan m.ext (-1) (recvSeq f.sel ops)) ∧
  (m.ext = true → m.country = AFld.scan true 0 (ac09_countrySeq cfg ops))

theorem wd_Inv_step (cfg : Cfg) (m : Mon) (ops : List Op) (op : Op) (hop : op.keepsExt m.ext)
    (h : wd_Inv cfg m ops) : wd_Inv cfg (m.step cfg op) (ops ++ [op]) ∧ (m.step cfg op).ext = m.ext := by
  obtain ⟨hc, hf, hcty⟩ := h
  rcases op.kind_cases with rfl | rfl | ⟨g, hg⟩ | ⟨hg, h1, h2⟩
  · refine ⟨⟨rfl, fun f hf' => ?_, fun he => Bool.noConfusion (he : false = true)⟩, hop.symm⟩
    rw [wd_step_init, wd_recvSeq_reset _ ops (Or.inl rfl), Mon.init_fld]
    cases f <;> first | rfl | exact absurd rfl hf'
  · refine ⟨⟨rfl, fun f hf' => ?_, fun _ => ?_⟩, rfl⟩
    · rw [wd_step_clear, wd_recvSeq_reset _ ops (Or.inr rfl), Mon.reset_fld]
      cases f <;> first | rfl | exact absurd rfl hf'
    · rw [ac09_countrySeq, ac09_ctySt_reset cfg ops (Or.inr rfl)]
      rfl
  · rw [Mon.step_group cfg m hg]
    have he : ({ m.group cfg g with prevGroup := some g } : Mon).ext = m.ext := Mon.group_ext cfg m g
    -- every field takes the reception its selector offers, and so does its sequence
    have hf2 : ∀ f, f ≠ .country →
        (m.group cfg g).fld f = AFld.scan m.ext (-1) (recvSeq f.sel (ops ++ [op])) := by
      intro f hf'
      rw [Mon.group_fld cfg m g f hf', wd_recvSeq_group _ ops hg, AFld.scan_toList, hf f hf']
    refine ⟨⟨(Mon.group_clean cfg m g).trans hc, fun f hf' => ?_, fun he' => ?_⟩, he⟩
    · rw [he, wd_prev_fld]; exact hf2 f hf'
    · rw [he] at he'
      have hpi : (m.pi.recvO m.ext (selPi g)).vis = extFold (-1) (recvSeq selPi (ops ++ [op])) := by
        have := hf2 .pi (by decide)
        rw [Mon.group_fld cfg m g .pi (by decide)] at this
        exact (congrArg AFld.vis this).trans (he' ▸ AFld.scan_ext _ _)
      show (m.group cfg g).country = _
      rw [Mon.group_country, hpi, ac09_countrySeq_group cfg ops hg, hcty he', he']
      cases selEcc g with
      | none => simp
      | some e => exact (AFld.scan_snoc true 0 _ _).symm
  · rw [Mon.step_quiet cfg m hg h1 h2]
    have he : op.onExt m.ext = m.ext := Op.onExt_of_keepsExt hop
    refine ⟨⟨?_, fun f hf' => ?_, fun he' => ?_⟩, he⟩
    · show (m.clean && (decide (op.onExt m.ext = m.ext) || !m.anyRecv)) = true
      rw [he, hc]; simp
    · show m.fld f = AFld.scan (op.onExt m.ext) _ _
      rw [he, wd_recvSeq_nogroup _ ops hg h1 h2]
      exact hf f hf'
    · rw [ac09_countrySeq, ac09_ctySt_nogroup cfg ops hg h1 h2]
      exact hcty (he ▸ he')

theorem wd_Inv_run (cfg : Cfg) (ops0 : List Op) (e : Bool) (h0 : wd_Inv cfg (monAfter cfg ops0) ops0)
    (he : (monAfter cfg ops0).ext = e) (rest : List Op) :
    (∀ op ∈ rest, op.keepsExt e) →
      wd_Inv cfg (monAfter cfg (ops0 ++ rest)) (ops0 ++ rest) ∧ (monAfter cfg (ops0 ++ rest)).ext = e := by
  induction rest using List.snoc_ind with
  | nil => intro _; rw [List.append_nil]; exact ⟨h0, he⟩
  | snoc l a ih =>
    intro h
    obtain ⟨i1, i2⟩ := ih (fun op ho => h op (List.mem_append_left _ ho))
    rw [← List.append_assoc, monAfter_snoc]
    obtain ⟨s1, s2⟩ := wd_Inv_step cfg _ _ a (i2 ▸ h a (by simp)) i1
    exact ⟨s1, s2.trans i2⟩

theorem wd_init_anyRecv : Mon.init.anyRecv = false := by decide

/-- monitor and reception sequences as a reset leaves them -/
structure wd_Fresh (cfg : Cfg) (m : Mon) (ops : List Op) : Prop where
  clean : m.clean = true
  quiet : m.anyRecv = false
  fld : ∀ f, m.fld f = ⟨none, f.unknown⟩
  seq : ∀ sel, recvSeq sel ops = []
  cty : ac09_ctySt cfg ops = ([], [])
  af : ∀ v, afCount v ops = 0

theorem wd_fresh_of_pristine (cfg : Cfg) (ops : List Op) :
    ac09_pristine ops = true → wd_Fresh cfg (monAfter cfg ops) ops := by
  have reset (l : List Op) (a : Op) (m : Mon) (ha : a = .init ∨ a = .clear) (hf : ∀ f, m.fld f = ⟨none, f.unknown⟩)
      (hc : m.clean = true) (hq : m.anyRecv = false) : wd_Fresh cfg m (l ++ [a]) :=
    { clean := hc, quiet := hq, fld := hf, seq := fun sel => wd_recvSeq_reset sel l ha
      cty := ac09_ctySt_reset cfg l ha, af := fun v => wd_afCount_reset v l ha }
  induction ops using List.snoc_ind with
  | nil =>
    intro _
    exact { clean := rfl, quiet := wd_init_anyRecv, fld := Mon.init_fld, seq := fun _ => rfl, cty := rfl, af := fun _ => rfl }
  | snoc l a ih =>
    intro hp
    rw [ac09_pristine_snoc] at hp
    rw [monAfter_snoc]
    rcases a.kind_cases with rfl | rfl | ⟨g, hg⟩ | ⟨hg, h1, h2⟩
    · exact reset l _ _ (Or.inl rfl) Mon.init_fld rfl wd_init_anyRecv
    · exact reset l _ _ (Or.inr rfl) (Mon.reset_fld _) rfl wd_init_anyRecv
    · obtain ⟨n1, n2⟩ := Op.ne_reset_of_group hg
      rw [ac09_pristineStep_other _ _ n1 n2, hg] at hp
      simp at hp
    · rw [ac09_pristineStep_other _ _ h1 h2, Bool.and_eq_true] at hp
      have i := ih hp.1
      rw [Mon.step_quiet cfg _ hg h1 h2]
      exact
      { clean := by show (_ && (_ || !_)) = true; rw [i.clean, i.quiet]; simp
        quiet := i.quiet
        fld := i.fld
        seq := fun sel => (wd_recvSeq_nogroup sel l hg h1 h2).trans (i.seq sel)
        cty := (ac09_ctySt_nogroup cfg l hg h1 h2).trans i.cty
        af := fun v => (wd_afCount_nogroup v l hg h1 h2).trans (i.af v) }

theorem wd_Inv_pristine (cfg : Cfg) (ops : List Op) (hp : ac09_pristine ops = true) :
    wd_Inv cfg (monAfter cfg ops) ops := by
  have i := wd_fresh_of_pristine cfg ops hp
  refine ⟨i.clean, fun f hf' => ?_, fun _ => ?_⟩
  · rw [i.seq, i.fld f]
    cases f <;> first | rfl | exact absurd rfl hf'
  · unfold ac09_countrySeq
    rw [i.cty]
    exact i.fld .country

theorem wd_Inv_normal (cfg : Cfg) (ops : List Op) (hn : NormalMode ops) :
    wd_Inv cfg (monAfter cfg ops) ops ∧ (monAfter cfg ops).ext = false := by
  have hk : ∀ op ∈ ops, op.keepsExt false := fun op ho => by
    cases op with
    | setExt v =>
      cases v
      · rfl
      · exact absurd rfl (hn _ ho)
    | init => rfl
    | _ => trivial
  have := wd_Inv_run cfg [] false (wd_Inv_pristine cfg [] rfl) rfl ops hk
  rwa [List.nil_append] at this

/-- `pre ++ [setExt true]` is itself a history that leaves the parser in its reset state -/
theorem wd_Inv_extended (cfg : Cfg) (ops : List Op) (he : ExtendedMode' ops) :
    wd_Inv cfg (monAfter cfg ops) ops ∧ (monAfter cfg ops).ext = true := by
  obtain ⟨pre, rest, rfl, hp, hr⟩ := he
  have e : pre ++ .setExt true :: rest = (pre ++ [.setExt true]) ++ rest := by simp
  rw [e]
  refine wd_Inv_run cfg _ true (wd_Inv_pristine cfg _ ?_) ?_ rest (fun op ho => ?_)
  · rw [ac09_pristine_snoc, hp]; rfl
  · rw [monAfter_snoc]; rfl
  · obtain ⟨a, b⟩ := hr op ho
    cases op <;> first | trivial | exact absurd rfl b | exact absurd rfl (a _)

theorem wd_Inv_getters (cfg : Cfg) (ops : List Op) (h : wd_Inv cfg (monAfter cfg ops) ops) (f : Fld)
    (hf : f ≠ .country) :
    (run cfg ops).used.get f = (AFld.scan (monAfter cfg ops).ext (-1) (recvSeq f.sel ops)).vis := by
  rw [((linkL_run cfg ops).link.fields h.1 f).1, h.2.1 f hf]

theorem wd_afCount_inv (cfg : Cfg) (v : Nat) (hv : afValid v = true) (ops : List Op) :
    (monAfter cfg ops).afCount.length = afBits ∧ (monAfter cfg ops).afCount.getD v 0 = afCount v ops := by
  have hbase : (List.replicate afBits 0).length = afBits ∧ (List.replicate afBits 0).getD v 0 = 0 :=
    ⟨List.length_replicate, getD_replicate_same _ _ _⟩
  induction ops using List.snoc_ind with
  | nil => exact hbase
  | snoc l a ih =>
    obtain ⟨ihl, ihc⟩ := ih
    rw [monAfter_snoc]
    rcases a.kind_cases with h1 | h1 | ⟨g, hg⟩ | ⟨hg, h1, h2⟩
    · rw [wd_afCount_reset v l (Or.inl h1)]; subst h1; exact hbase
    · rw [wd_afCount_reset v l (Or.inr h1)]; subst h1; exact hbase
    · rw [Mon.step_group cfg _ hg, wd_afCount_group v l hg, ← ihc]
      show ((monAfter cfg l).group cfg g).afCount.length = afBits ∧ ((monAfter cfg l).group cfg g).afCount.getD v 0 = _
      rw [Mon.group_afCount]
      exact afBump_foldl (afCodes g) v hv _ ihl
    · rw [(congrArg Mon.afCount ((monAfter cfg l).step_quiet cfg hg h1 h2) :), wd_afCount_nogroup v l hg h1 h2]
      exact ⟨ihl, ihc⟩

/-- C01 in its own words: in normal mode, after any call sequence, each of the five tuning fields equals the last
error-free reception of that field since the last reset, and is "unknown" (-1) before the first one. -/
theorem C01_worded (tb : Tabs) (h : EccOk tb) (ops : List Op) (hn : NormalMode ops) :
    (run tb.cfg ops).used.pi = lastOr (-1) (recvSeq selPi ops) ∧
    (run tb.cfg ops).used.pty = lastOr (-1) (recvSeq selPty ops) ∧
    (run tb.cfg ops).used.tp = lastOr (-1) (recvSeq selTp ops) ∧
    (run tb.cfg ops).used.ta = lastOr (-1) (recvSeq selTa ops) ∧
    (run tb.cfg ops).used.ms = lastOr (-1) (recvSeq selMs ops) := by
  obtain ⟨hi, he⟩ := wd_Inv_normal tb.cfg ops hn
  have hw := fun f hf => (wd_Inv_getters tb.cfg ops hi f hf).trans (he ▸ AFld.scan_normal _ _)
  exact ⟨hw .pi (by decide), hw .pty (by decide), hw .tp (by decide), hw .ta (by decide), hw .ms (by decide)⟩

/-- "never falls back to unknown except through a reset": once something has been received only `init`/`clear`
can empty the reception sequence -/
theorem C01_never_unknown (sel : Group → Option Int) (ops : List Op) (op : Op)
    (hop : op ≠ .init ∧ op ≠ .clear) (hne : recvSeq sel ops ≠ []) : recvSeq sel (ops ++ [op]) ≠ [] := by
  rw [wd_recvSeq_other sel ops hop.1 hop.2]
  cases op.group?.bind sel with
  | none => exact hne
  | some v => simp

/-- `C09_worded` for arbitrary tables and the wider `ExtendedMode'`: the switch may come at any moment the parser is
in its reset state -/
theorem C09_worded' (cfg : Cfg) (ops : List Op) (he : ExtendedMode' ops) :
    (run cfg ops).used.pi = extFold (-1) (recvSeq selPi ops) ∧
    (run cfg ops).used.pty = extFold (-1) (recvSeq selPty ops) ∧
    (run cfg ops).used.tp = extFold (-1) (recvSeq selTp ops) ∧
    (run cfg ops).used.ta = extFold (-1) (recvSeq selTa ops) ∧
    (run cfg ops).used.ms = extFold (-1) (recvSeq selMs ops) ∧
    (run cfg ops).used.ecc = extFold (-1) (recvSeq selEcc ops) := by
  obtain ⟨hi, he⟩ := wd_Inv_extended cfg ops he
  have hw := fun f hf => (wd_Inv_getters cfg ops hi f hf).trans (he ▸ AFld.scan_ext _ _)
  exact ⟨hw .pi (by decide), hw .pty (by decide), hw .tp (by decide), hw .ta (by decide), hw .ms (by decide),
    hw .ecc (by decide)⟩

/-- C09 in its own words: with the extended check switched on while the parser is in its reset state, and neither
`setExt` nor `init` called afterwards, each of PI, PTY, TP, TA, MS, ECC shows the value of the most recent two
consecutive identical receptions since the last reset, unknown (-1) if there is none -/
theorem C09_worded (tb : Tabs) (h : EccOk tb) (ops : List Op) (he : ExtendedMode ops) :
    (run tb.cfg ops).used.pi = extFold (-1) (recvSeq selPi ops) ∧
    (run tb.cfg ops).used.pty = extFold (-1) (recvSeq selPty ops) ∧
    (run tb.cfg ops).used.tp = extFold (-1) (recvSeq selTp ops) ∧
    (run tb.cfg ops).used.ta = extFold (-1) (recvSeq selTa ops) ∧
    (run tb.cfg ops).used.ms = extFold (-1) (recvSeq selMs ops) ∧
    (run tb.cfg ops).used.ecc = extFold (-1) (recvSeq selEcc ops) :=
  C09_worded' tb.cfg ops (ac09_extendedMode_toPrime he)

/-- the COUNTRY clause of C09 in its own words: the visible country is the two-in-a-row reading (`extFold`, unknown = 0)
of the countries looked up since the last reset (`ac09_countrySeq`) -/
theorem C09_worded_country' (cfg : Cfg) (ops : List Op) (he : ExtendedMode' ops) :
    (run cfg ops).used.country = extFold 0 (ac09_countrySeq cfg ops) := by
  obtain ⟨hi, he⟩ := wd_Inv_extended cfg ops he
  have hv : (run cfg ops).used.country = (monAfter cfg ops).country.vis :=
    ((linkL_run cfg ops).link.fields hi.1 .country).1
  rw [hv, hi.2.2 he, AFld.scan_ext]

theorem C09_worded_country (cfg : Cfg) (ops : List Op) (he : ExtendedMode ops) :
    (run cfg ops).used.country = extFold 0 (ac09_countrySeq cfg ops) :=
  C09_worded_country' cfg ops (ac09_extendedMode_toPrime he)

/-- `extFold` is the reading C09 words: a value other than `unk` is shown only if it came in two consecutive receptions -/
theorem extFold_shown (unk : Int) (l : List Int) (v : Int) (hv : extFold unk l = v) (hne : v ≠ unk) :
    ∃ i, l[i]? = some v ∧ l[i + 1]? = some v := by
  rw [wd_extFold_eq] at hv
  rcases wd_extSt_snd unk l with h | h
  · exact absurd (hv.symm.trans h) hne
  · rw [hv] at h; exact h

theorem extFold_no_double (unk : Int) (l : List Int)
    (hnd : ∀ i a b, l[i]? = some a → l[i + 1]? = some b → a ≠ b) : extFold unk l = unk := by
  by_cases h : extFold unk l = unk
  · exact h
  · obtain ⟨i, h1, h2⟩ := extFold_shown unk l _ rfl h
    exact absurd rfl (hnd i _ _ h1 h2)

theorem extFold_double_at_end (unk : Int) (l : List Int) (v : Int) : extFold unk (l ++ [v, v]) = v := by
  have e : l ++ [v, v] = (l ++ [v]) ++ [v] := by simp
  rw [wd_extFold_eq, e, wd_extSt_snoc, wd_extSt_snoc]
  simp

theorem wd_af_of_clean (cfg : Cfg) (ops : List Op) (hc : (monAfter cfg ops).clean = true) (v : Nat)
    (hv : v < afBits) :
    (run cfg ops).used.af.getD v false =
      (afValid v && decide ((if (monAfter cfg ops).ext then 2 else 1) ≤ afCount v ops)) := by
  have hl := (linkL_run cfg ops).link
  rw [((hl.af hc) v hv).1, ← hl.ext]
  cases hval : afValid v
  · rw [hl.cntInvalid v hval]; cases (monAfter cfg ops).ext <;> rfl
  · rw [(wd_afCount_inv cfg v hval ops).2]; cases (monAfter cfg ops).ext <;> simp

/-- C10 in its own words, normal mode: the AF list is exactly the set of valid codes (1..204) received at least once
in 0A groups since the last reset -/
theorem C10_worded_normal (tb : Tabs) (h : EccOk tb) (ops : List Op) (hn : NormalMode ops) (v : Nat)
    (hv : v < afBits) :
    (run tb.cfg ops).used.af.getD v false = (afValid v && decide (1 ≤ afCount v ops)) := by
  obtain ⟨hi, he⟩ := wd_Inv_normal tb.cfg ops hn
  rw [wd_af_of_clean tb.cfg ops hi.1 v hv, he]
  rfl

/-- C10 under the extended check (`ExtendedMode'`, arbitrary tables): exactly the valid codes received at least twice -/
theorem C10_worded_extended' (cfg : Cfg) (ops : List Op) (he : ExtendedMode' ops) (v : Nat) (hv : v < afBits) :
    (run cfg ops).used.af.getD v false = (afValid v && decide (2 ≤ afCount v ops)) := by
  obtain ⟨hi, he⟩ := wd_Inv_extended cfg ops he
  rw [wd_af_of_clean cfg ops hi.1 v hv, he]
  rfl

theorem C10_worded_extended (tb : Tabs) (h : EccOk tb) (ops : List Op) (he : ExtendedMode ops) (v : Nat)
    (hv : v < afBits) :
    (run tb.cfg ops).used.af.getD v false = (afValid v && decide (2 ≤ afCount v ops)) :=
  C10_worded_extended' tb.cfg ops (ac09_extendedMode_toPrime he) v hv

theorem ac09_suffix (cfg : Cfg) (pre rest : List Op) (hp : ac09_pristine pre = true) :
    (∀ sel, recvSeq sel (pre ++ .setExt true :: rest) = recvSeq sel rest) ∧
    (∀ v, afCount v (pre ++ .setExt true :: rest) = afCount v rest) ∧
    ac09_countrySeq cfg (pre ++ .setExt true :: rest) = ac09_countrySeq cfg rest := by
  have i := wd_fresh_of_pristine cfg pre hp
  exact ⟨fun sel => wd_foldl_append_init _ _ _ _ (i.seq sel), fun v => wd_foldl_append_init _ _ _ _ (i.af v),
    congrArg Prod.snd (wd_foldl_append_init _ _ _ _ i.cty)⟩

/-- C09 and C10 under `ExtendedMode'` with every history read over the suffix after the switch -/
theorem C09_worded'_suffix (cfg : Cfg) (pre rest : List Op) (hp : ac09_pristine pre = true)
    (hr : ∀ op ∈ rest, (∀ v, op ≠ .setExt v) ∧ op ≠ .init) :
    let ops := pre ++ .setExt true :: rest
    (run cfg ops).used.pi = extFold (-1) (recvSeq selPi rest) ∧
    (run cfg ops).used.pty = extFold (-1) (recvSeq selPty rest) ∧
    (run cfg ops).used.tp = extFold (-1) (recvSeq selTp rest) ∧
    (run cfg ops).used.ta = extFold (-1) (recvSeq selTa rest) ∧
    (run cfg ops).used.ms = extFold (-1) (recvSeq selMs rest) ∧
    (run cfg ops).used.ecc = extFold (-1) (recvSeq selEcc rest) ∧
    (run cfg ops).used.country = extFold 0 (ac09_countrySeq cfg rest) ∧
    ∀ v, v < afBits → (run cfg ops).used.af.getD v false = (afValid v && decide (2 ≤ afCount v rest)) := by
  intro ops
  have he : ExtendedMode' ops := ⟨pre, rest, rfl, hp, hr⟩
  obtain ⟨s1, s2, s3⟩ := ac09_suffix cfg pre rest hp
  have h := C09_worded' cfg ops he
  have hc := C09_worded_country' cfg ops he
  have ha := fun v hv => C10_worded_extended' cfg ops he v hv
  rw [s1, s1, s1, s1, s1, s1] at h
  rw [s3] at hc
  refine ⟨h.1, h.2.1, h.2.2.1, h.2.2.2.1, h.2.2.2.2.1, h.2.2.2.2.2, hc, fun v hv => ?_⟩
  rw [ha v hv, s2]

/-! ## non-vacuity and necessity of the hypotheses -/

/-- a history with receptions BEFORE the switch (then a `clear`, a registration, a failing `parseString`) -/
def ac09_ops : List Op :=
  [.parse ac09_gB, .setExt true, .parse ac09_gB, .setExt false, .clear, .register .pi true, .parseString none,
   .setExt true,
   .parse ac09_gA, .parse ac09_gE, .getters, .parse ac09_gE, .parse ac09_gA]

theorem ac09_ops_mode : ExtendedMode' ac09_ops :=
  ⟨[.parse ac09_gB, .setExt true, .parse ac09_gB, .setExt false, .clear, .register .pi true, .parseString none],
   [.parse ac09_gA, .parse ac09_gE, .getters, .parse ac09_gE, .parse ac09_gA], rfl, by decide,
   by decide⟩

/-- `ExtendedMode'` is strictly more general than `ExtendedMode` -/
example : ¬ ExtendedMode ac09_ops := by
  rintro ⟨rest, h, _⟩
  cases h

/-- on this history the conclusions are non-trivial: PI 0x1234 (received 4 times in a row) is shown, the ECC (twice)
is shown, the country is the table entry for (nibble 1, 0xE3) = 16·1 + 3, AF 0x5A (twice) is listed -/
example : extFold (-1) (recvSeq selPi ac09_ops) = 0x1234 ∧ extFold (-1) (recvSeq selEcc ac09_ops) = 0xE3 ∧
    ac09_countrySeq ac09_cfg ac09_ops = [19, 19] ∧ extFold 0 (ac09_countrySeq ac09_cfg ac09_ops) = 19 ∧
    afCount 0x5A ac09_ops = 2 := by decide

/-- and the model indeed shows them (what the theorems say, evaluated) -/
example : (run ac09_cfg ac09_ops).used.pi = 0x1234 ∧ (run ac09_cfg ac09_ops).used.ecc = 0xE3 ∧
    (run ac09_cfg ac09_ops).used.country = 19 ∧ (run ac09_cfg ac09_ops).used.af.getD 0x5A false = true ∧
    (run ac09_cfg ac09_ops).used.af.getD 0x02 false = false := by decide +kernel

/-- the two-in-a-row rule for the country proper: the same (PI, ECC) presented twice after the PI is visible -/
example : ExtendedMode [.setExt true, .parse ac09_gA, .parse ac09_gE, .parse ac09_gE, .parse ac09_gE] ∧
    ac09_countrySeq ac09_cfg [.setExt true, .parse ac09_gA, .parse ac09_gE, .parse ac09_gE, .parse ac09_gE] = [19, 19, 19] ∧
    (run ac09_cfg [.setExt true, .parse ac09_gA, .parse ac09_gE, .parse ac09_gE, .parse ac09_gE]).used.country = 19 ∧
    (run ac09_cfg [.setExt true, .parse ac09_gA, .parse ac09_gE, .parse ac09_gE]).used.country = 19 ∧
    (run ac09_cfg [.setExt true, .parse ac09_gA, .parse ac09_gE]).used.country = 0 := by
  refine ⟨⟨_, rfl, by decide⟩, ?_⟩
  decide +kernel

/-- the country looked up depends on the PI *visible* at that moment, not on the PI carried by the 1A group itself:
the first gE' carries PI 0x5678 in block A, but under the check the visible PI is still 0x1234 → entry (1, 0xE3) = 19;
with the second gE' 0x5678 has come twice and is visible → entry (5, 0xE3) = 83; two different entries show no country -/
example : ac09_countrySeq ac09_cfg [.setExt true, .parse ac09_gA, .parse ac09_gA, .parse ac09_gE', .parse ac09_gE'] = [19, 83] ∧
    (run ac09_cfg [.setExt true, .parse ac09_gA, .parse ac09_gA, .parse ac09_gE', .parse ac09_gE']).used.country = 0 := by
  decide +kernel

/-- the hypothesis "switched on in the reset state" is necessary: with a reception before the switch (no reset in
between) the visible PI is NOT the two-in-a-row reading -/
example : (run ac09_cfg [.parse ac09_gA, .setExt true]).used.pi = 0x1234 ∧
    extFold (-1) (recvSeq selPi [.parse ac09_gA, .setExt true]) = -1 := by decide +kernel

end RDS

#print axioms RDS.C01_worded
#print axioms RDS.C01_never_unknown
#print axioms RDS.C09_worded
#print axioms RDS.extFold_shown
#print axioms RDS.extFold_no_double
#print axioms RDS.extFold_double_at_end
#print axioms RDS.C10_worded_normal
#print axioms RDS.C10_worded_extended
