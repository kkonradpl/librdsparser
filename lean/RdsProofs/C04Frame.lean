import RdsProofs.Frame
/-!
# The vocabulary of C04, and the C04 facts of one handler stage (`HOk`) with their sequential composition

Events counted by kind (`cntK`), what `setField` and `addAf` emit as a function of what they change in the visible buffer,
the getter-visible components with a callback (`Comp`), the AF clause (`AfOk`); then `HOk`.
-/
namespace RDS

def cntK (l : List Event) (p : EvKind → Bool) : Nat := (l.filter (fun e => p e.kind)).length

@[simp] theorem ofEvent_kind (e : Event) : (EvObs.ofEvent e).kind = e.kind := rfl

theorem countKind_map (l : List Event) (p : EvKind → Bool) :
    countKind (l.map EvObs.ofEvent) p = cntK l p := by
  simp [countKind, cntK, List.filter_map, Function.comp_def]

@[simp] theorem cntK_nil (p) : cntK [] p = 0 := rfl
@[simp] theorem cntK_append (l1 l2 p) : cntK (l1 ++ l2) p = cntK l1 p + cntK l2 p := by
  simp [cntK]

theorem cntK_pos_of_mem {l : List Event} {p : EvKind → Bool} {e : Event} (he : e ∈ l) (hp : p e.kind = true) :
    0 < cntK l p := by
  unfold cntK
  exact List.length_pos_of_mem (List.mem_filter.2 ⟨he, hp⟩)

theorem cntK_zero_of {l : List Event} {p : EvKind → Bool} (h : ∀ e ∈ l, p e.kind = false) : cntK l p = 0 := by
  unfold cntK
  rw [List.length_eq_zero_iff, List.filter_eq_nil_iff]
  intro e he; simp [h e he]

theorem cntK_emit (s : State) (c : Cb) (k : EvKind) (p) :
    cntK (emit s c k) p = if s.registered c && p k then 1 else 0 := by
  unfold emit cntK
  cases s.registered c <;> cases h : p k <;> simp [h]

theorem mem_emit {s : State} {c : Cb} {k : EvKind} {e : Event} (h : e ∈ emit s c k) :
    e.kind = k ∧ e.snap = s ∧ e.ud = s.ud ∧ s.registered c = true := by
  unfold emit at h
  split at h
  · simp at h; subst h; simp_all
  · simp at h

/-- `setField_snd` with the flag of `bufUpdate` read as "the getter changed" -/
theorem setField_evs (s : State) (f : Fld) (v : Int) :
    (setField s f v).2 =
      if (setField s f v).1.used.get f ≠ s.used.get f then emit (setField s f v).1 f.cb f.ev else [] := by
  have h := bufUpdate_changed_iff s.set.ext (s.used.get f) (s.temp.get f) v
  rw [setField_snd, Fld.ev_cb, setField_used_get]
  by_cases hc : (bufUpdate s.set.ext (s.used.get f) (s.temp.get f) v).2.2 = true
  · rw [if_pos hc, if_pos (h.1 hc)]
  · rw [if_neg hc, if_neg (fun hh => hc (h.2 hh))]

theorem setField_cnt (s : State) (f : Fld) (v : Int) (p : EvKind → Bool) :
    cntK (setField s f v).2 p =
      if (setField s f v).1.used.get f ≠ s.used.get f ∧ s.registered f.cb = true ∧ p f.ev = true then 1 else 0 := by
  rw [setField_evs]
  by_cases hc : (setField s f v).1.used.get f ≠ s.used.get f
  · rw [if_pos hc, cntK_emit, setField_registered]; simp [hc]
  · simp [hc]

theorem mem_setField {s : State} {f : Fld} {v : Int} {e : Event} (h : e ∈ (setField s f v).2) :
    e.kind = f.ev ∧ e.snap = (setField s f v).1 := by
  rw [setField_evs] at h
  split at h
  · have := mem_emit h; exact ⟨this.1, this.2.1⟩
  · simp at h

@[simp] theorem addAf_registered (s : State) (v : Nat) (c : Cb) :
    (addAf s v).1.registered c = s.registered c := by
  simp [State.registered]

@[simp] theorem addAf_used_pi (s : State) (v : Nat) : (addAf s v).1.used.pi = s.used.pi := addAf_used_get s v .pi

/-- the getter-visible components that have a callback -/
inductive Comp | sc (f : Fld) | af | ps | rt0 | rt1 | ptyn
deriving DecidableEq

inductive CV | i (v : Int) | b (l : List Bool) | t (t : Text)
deriving DecidableEq

def Comp.view : Comp → State → CV
  | .sc f, s => .i (s.used.get f) | .af, s => .b s.used.af | .ps, s => .t s.ps
  | .rt0, s => .t s.rt0 | .rt1, s => .t s.rt1 | .ptyn, s => .t s.ptyn

def Comp.cb : Comp → Cb
  | .sc f => f.cb | .af => .af | .ps => .ps | .rt0 => .rt | .rt1 => .rt | .ptyn => .ptyn

def Comp.kindP : Comp → EvKind → Bool
  | .sc f => (· == f.ev)
  | .af => fun k => match k with | .af _ => true | _ => false
  | .ps => (· == .ps) | .rt0 => (· == .rt 0) | .rt1 => (· == .rt 1) | .ptyn => (· == .ptyn)

def rtBadP : EvKind → Bool := fun k => match k with | .rt f => decide (f ≥ 2) | _ => false

def compOf : EvKind → Option Comp
  | .pi => some (.sc .pi) | .pty => some (.sc .pty) | .tp => some (.sc .tp) | .ta => some (.sc .ta)
  | .ms => some (.sc .ms) | .ecc => some (.sc .ecc) | .country => some (.sc .country)
  | .af _ => none | .ps => some .ps
  | .rt f => if f = 0 then some .rt0 else if f = 1 then some .rt1 else none
  | .ptyn => some .ptyn | .ct _ => none

theorem compOf_ev (f : Fld) : compOf f.ev = some (.sc f) := by cases f <;> rfl

theorem Fld.ev_inj {f f' : Fld} (h : f.ev = f'.ev) : f = f' := by
  have e := congrArg compOf h
  rw [compOf_ev, compOf_ev] at e
  exact Comp.sc.inj (Option.some.inj e)

/-- the event shows its own field as the state `fin` has it -/
def ownGood (fin : State) (e : Event) : Prop :=
  match e.kind with
  | .pi => e.snap.used.pi = fin.used.pi | .pty => e.snap.used.pty = fin.used.pty
  | .tp => e.snap.used.tp = fin.used.tp | .ta => e.snap.used.ta = fin.used.ta
  | .ms => e.snap.used.ms = fin.used.ms | .ecc => e.snap.used.ecc = fin.used.ecc
  | .country => e.snap.used.country = fin.used.country
  | .af k => e.snap.used.af.getD ((k - 87500) / 100) false = true
  | .ps => e.snap.ps = fin.ps | .rt f => e.snap.rt f = fin.rt f | .ptyn => e.snap.ptyn = fin.ptyn
  | .ct _ => True

theorem compOf_spec {k : EvKind} {X : Comp} (h : compOf k = some X) :
    X.kindP k = true ∧ X.cb = k.cb ∧ X ≠ .af ∧ rtBadP k = false ∧ Comp.af.kindP k = false := by
  cases k <;> simp only [compOf, Option.some.injEq, reduceCtorEq] at h
  case rt f =>
    split at h
    · rename_i h0; subst h0; cases h; simp [Comp.kindP, Comp.cb, EvKind.cb, rtBadP]
    · split at h
      · rename_i h0; subst h0; cases h; simp [Comp.kindP, Comp.cb, EvKind.cb, rtBadP]
      · cases h
  all_goals (subst h; simp [Comp.kindP, Comp.cb, EvKind.cb, Fld.ev, Fld.cb, rtBadP])

theorem compOf_of_kindP {k : EvKind} {Y : Comp} (h : Y.kindP k = true) (hna : Y ≠ .af) :
    compOf k = some Y := by
  cases Y with
  | af => exact absurd rfl hna
  | sc f => rw [eq_of_beq h]; exact compOf_ev f
  | _ => rw [eq_of_beq h]; rfl

theorem ownGood_transfer {e : Event} {s1 s2 : State} (h : ownGood s1 e) (hb : rtBadP e.kind = false)
    (hv : ∀ X, compOf e.kind = some X → X.view s1 = X.view s2) : ownGood s2 e := by
  obtain ⟨k, u, sn⟩ := e
  cases k
  case af => exact h
  case ct => trivial
  case rt f =>
    simp only [rtBadP, decide_eq_false_iff_not] at hb
    simp only [ownGood] at h ⊢
    have hf : f = 0 ∨ f = 1 := by omega
    rcases hf with rfl | rfl
    · have := hv .rt0 (by simp [compOf])
      simp only [Comp.view, CV.t.injEq] at this
      simpa [State.rt, this] using h
    · have := hv .rt1 (by simp [compOf])
      simp only [Comp.view, CV.t.injEq] at this
      simpa [State.rt, this] using h
  all_goals
    have := hv _ rfl
    simp only [Comp.view, CV.t.injEq, CV.i.injEq, Scalars.get] at this
    simp only [ownGood] at h ⊢
    rw [← this]; exact h

def afKhz (l : List Event) : List Nat := afEventKhz (l.map EvObs.ofEvent)

@[simp] theorem afKhz_nil : afKhz [] = [] := rfl
@[simp] theorem afKhz_append (l1 l2) : afKhz (l1 ++ l2) = afKhz l1 ++ afKhz l2 := by
  simp [afKhz, afEventKhz]

def EvKind.afKhz? : EvKind → Option Nat
  | .af k => some k | _ => none

theorem afKhz_eq (l : List Event) : afKhz l = l.filterMap (fun e => e.kind.afKhz?) := by
  simp only [afKhz, afEventKhz, List.filterMap_map]
  rfl

theorem afKhz?_eq_none {k : EvKind} (h : Comp.af.kindP k = false) : k.afKhz? = none := by
  cases k <;> first | rfl | cases h

theorem afKhz_eq_nil_of {l : List Event} (h : ∀ e ∈ l, Comp.af.kindP e.kind = false) : afKhz l = [] := by
  rw [afKhz_eq, List.filterMap_eq_nil_iff]
  exact fun e he => afKhz?_eq_none (h e he)

/-- `newAfCodes` with an index offset -/
def nac (b a : List Bool) (k : Nat) : List Nat :=
  ((List.zip a b).zipIdx k).filterMap (fun p => if p.1.1 && !p.1.2 then some p.2 else none)

theorem newAfCodes_eq (b a : Obs) : newAfCodes b a = nac b.sc.af a.sc.af 0 := rfl

theorem nac_cons (x y : Bool) (b a : List Bool) (k : Nat) :
    nac (x :: b) (y :: a) k = (if y && !x then [k] else []) ++ nac b a (k + 1) := by
  simp only [nac, List.zip_cons_cons, List.zipIdx_cons, List.filterMap_cons]
  cases y <;> cases x <;> simp

@[simp] theorem nac_nil_left (a k) : nac [] a k = [] := by simp [nac]
@[simp] theorem nac_nil_right (b k) : nac b [] k = [] := by simp [nac]

theorem nac_self (l : List Bool) (k : Nat) : nac l l k = [] := by
  induction l generalizing k with
  | nil => simp
  | cons x l ih => rw [nac_cons, ih]; cases x <;> simp

theorem nac_set (l : List Bool) (v k : Nat) (hv : v < l.length) (hf : l[v] = false) :
    nac l (l.set v true) k = [k + v] := by
  induction l generalizing v k with
  | nil => simp at hv
  | cons x l ih =>
    cases v with
    | zero =>
      simp only [List.getElem_cons_zero] at hf
      subst hf
      simp [List.set_cons_zero, nac_cons, nac_self]
    | succ v =>
      simp only [List.getElem_cons_succ] at hf
      simp only [List.length_cons, Nat.add_lt_add_iff_right] at hv
      rw [List.set_cons_succ, nac_cons, ih v (k + 1) hv hf]
      cases x <;> simp <;> omega

theorem nac_set2_lt (l : List Bool) (v1 v2 k : Nat) (hlt : v1 < v2) (h2 : v2 < l.length)
    (hf1 : l[v1] = false) (hf2 : l[v2] = false) :
    nac l ((l.set v1 true).set v2 true) k = [k + v1, k + v2] := by
  induction l generalizing v1 v2 k with
  | nil => simp at h2
  | cons x l ih =>
    obtain ⟨j, rfl⟩ : ∃ j, v2 = j + 1 := ⟨v2 - 1, by omega⟩
    have h2' : j < l.length := by simpa using h2
    simp only [List.getElem_cons_succ] at hf2
    cases v1 with
    | zero =>
      simp only [List.getElem_cons_zero] at hf1
      subst hf1
      rw [List.set_cons_zero, List.set_cons_succ, nac_cons, nac_set l j (k + 1) h2' hf2]
      simp; omega
    | succ i =>
      simp only [List.getElem_cons_succ] at hf1
      rw [List.set_cons_succ, List.set_cons_succ, nac_cons, ih i j (k + 1) (by omega) h2' hf1 hf2]
      cases x <;> simp <;> omega

theorem nac_set2 (l : List Bool) (v1 v2 k : Nat) (h1 : v1 < l.length) (h2 : v2 < l.length)
    (hf1 : l[v1] = false) (hf2 : l[v2] = false) (hne : v1 ≠ v2) :
    nac l ((l.set v1 true).set v2 true) k = if v1 < v2 then [k + v1, k + v2] else [k + v2, k + v1] := by
  by_cases h : v1 < v2
  · rw [if_pos h]; exact nac_set2_lt l v1 v2 k h h2 hf1 hf2
  · rw [if_neg h, List.set_comm _ _ hne]; exact nac_set2_lt l v2 v1 k (by omega) h1 hf2 hf1

theorem sortNat_nil : sortNat [] = [] := rfl
theorem sortNat_single (a : Nat) : sortNat [a] = [a] := rfl
theorem sortNat_pair (a b : Nat) : sortNat [a, b] = if a ≤ b then [a, b] else [b, a] := by
  simp [sortNat, insertNat]
theorem sortNat_pair_comm (a b : Nat) : sortNat [a, b] = sortNat [b, a] := by
  rw [sortNat_pair, sortNat_pair]
  by_cases h1 : a ≤ b <;> by_cases h2 : b ≤ a <;> simp [h1, h2] <;> omega

/-- the AF clause of C04 -/
def AfOk (b a : List Bool) (khz : List Nat) : Prop :=
  sortNat khz = sortNat ((nac b a 0).map (fun v => 87500 + 100 * v)) ∧ khz.length ≤ 2

theorem insertNat_ne_nil (x l) : insertNat x l ≠ [] := by
  cases l <;> simp [insertNat]; split <;> simp

theorem sortNat_eq_nil {l : List Nat} (h : sortNat l = []) : l = [] := by
  cases l with
  | nil => rfl
  | cons x l => exact absurd h (insertNat_ne_nil _ _)

theorem AfOk_same {l : List Bool} {k : List Nat} (h : AfOk l l k) : k = [] := by
  apply sortNat_eq_nil
  rw [h.1, nac_self]; rfl

theorem AfOk_refl (l : List Bool) : AfOk l l [] := by
  constructor
  · rw [nac_self]; rfl
  · simp

/-- The C04 facts of a handler stage that starts in `s` and returns `r`: it touches at most
the components `T`, and the components `F ⊆ T` get a notification even if they end up equal. -/
structure HOk (T F : List Comp) (s : State) (r : State × List Event) : Prop where
  reg : ∀ c, r.1.registered c = s.registered c
  touch : ∀ X, X ∉ T → X.view r.1 = X.view s
  forced : ∀ X, X ∈ F → X ∈ T
  cnt : ∀ X, X ≠ .af → s.registered X.cb = true →
    cntK r.2 X.kindP = if X.view r.1 ≠ X.view s ∨ X ∈ F then 1 else 0
  rtBad : cntK r.2 rtBadP = 0
  af : s.registered .af = true → AfOk s.used.af r.1.used.af (afKhz r.2)
  evreg : ∀ e ∈ r.2, s.registered e.kind.cb = true
  own : ∀ e ∈ r.2, ownGood r.1 e

theorem HOk_nil (T : List Comp) (s : State) : HOk T [] s (s, []) where
  reg _ := rfl
  touch _ _ := rfl
  forced _ h := nomatch h
  cnt X _ _ := by simp
  rtBad := rfl
  af _ := AfOk_refl _
  evreg _ h := by simp at h
  own _ h := by simp at h

theorem HOk_guard {T : List Comp} {s : State} {r : State × List Event} (c : Prop) [Decidable c]
    (h : c → HOk T [] s r) : HOk T [] s (if c then r else (s, [])) := by
  split
  · exact h ‹_›
  · exact HOk_nil T s

theorem HOk_mono {T T' F : List Comp} {s : State} {r : State × List Event} (h : HOk T F s r)
    (hs : T.all (fun X => T'.contains X) = true) : HOk T' F s r := by
  have hs' : ∀ X, X ∈ T → X ∈ T' := by
    intro X hX
    have := List.all_eq_true.1 hs X hX
    simpa using this
  exact { h with
    touch := fun X hX => h.touch X (fun hh => hX (hs' X hh))
    forced := fun X hX => hs' X (h.forced X hX) }

theorem HOk_seq {T1 T2 F1 F2 : List Comp} {s : State} {r1 r2 : State × List Event}
    (h1 : HOk T1 F1 s r1) (h2 : HOk T2 F2 r1.1 r2)
    (hd : T1.all (fun X => !T2.contains X) = true) :
    HOk (T1 ++ T2) (F1 ++ F2) s (r2.1, r1.2 ++ r2.2) := by
  have hd' : ∀ X, X ∈ T1 → X ∉ T2 := by
    intro X hX
    have := List.all_eq_true.1 hd X hX
    simpa using this
  exact {
    reg := fun c => by rw [h2.reg, h1.reg]
    touch := fun X hX => by
      simp only [List.mem_append, not_or] at hX
      show X.view r2.1 = X.view s
      rw [h2.touch X hX.2, h1.touch X hX.1]
    forced := fun X hX => by
      simp only [List.mem_append] at hX ⊢
      exact hX.imp (h1.forced X) (h2.forced X)
    cnt := fun X hXa hXr => by
      show cntK (r1.2 ++ r2.2) X.kindP = if X.view r2.1 ≠ X.view s ∨ X ∈ F1 ++ F2 then 1 else 0
      rw [cntK_append, h1.cnt X hXa hXr, h2.cnt X hXa (by rw [h1.reg]; exact hXr)]
      -- at most one of the two stages touches `X`
      by_cases hT : X ∈ T1
      · have h2T := hd' X hT
        have hv : X.view r2.1 = X.view r1.1 := h2.touch X h2T
        have hF : X ∉ F2 := fun hh => h2T (h2.forced X hh)
        simp [hv, hF]
      · have hv : X.view r1.1 = X.view s := h1.touch X hT
        have hF : X ∉ F1 := fun hh => hT (h1.forced X hh)
        simp [hv, hF]
    rtBad := by
      show cntK (r1.2 ++ r2.2) rtBadP = 0
      rw [cntK_append, h1.rtBad, h2.rtBad]
    af := fun hr => by
      show AfOk s.used.af r2.1.used.af (afKhz (r1.2 ++ r2.2))
      have a1 := h1.af hr
      have a2 := h2.af (by rw [h1.reg]; exact hr)
      rw [afKhz_append]
      -- the stage that does not touch the AF list reports no frequency
      by_cases hT : Comp.af ∈ T1
      · have hv := h2.touch _ (hd' _ hT)
        simp only [Comp.view, CV.b.injEq] at hv
        rw [hv] at a2 ⊢
        rw [AfOk_same a2, List.append_nil]; exact a1
      · have hv := h1.touch _ hT
        simp only [Comp.view, CV.b.injEq] at hv
        rw [hv] at a1 a2
        rw [AfOk_same a1, List.nil_append]; exact a2
    evreg := fun e he => by
      simp only [List.mem_append] at he
      rcases he with he | he
      · exact h1.evreg e he
      · rw [← h1.reg]; exact h2.evreg e he
    own := fun e he => by
      show ownGood r2.1 e
      simp only [List.mem_append] at he
      rcases he with he | he
      · -- an event of the first stage is counted under its component, so that stage touched it and the second did not
        have hb : rtBadP e.kind = false := by
          cases hb : rtBadP e.kind
          · rfl
          · have := cntK_pos_of_mem he hb
            rw [h1.rtBad] at this; omega
        refine ownGood_transfer (h1.own e he) hb fun X hX => ?_
        obtain ⟨hk, hcb, hna, _, _⟩ := compOf_spec hX
        have hr : s.registered X.cb = true := by rw [hcb]; exact h1.evreg e he
        have hc := h1.cnt X hna hr
        have hpos := cntK_pos_of_mem he hk
        have hT : X ∈ T1 := Classical.byContradiction fun hT => by
          have hv := h1.touch X hT
          have hF : X ∉ F1 := fun hh => hT (h1.forced X hh)
          rw [if_neg (by simp [hv, hF])] at hc
          omega
        exact (h2.touch X (hd' X hT)).symm
      · exact h2.own e he }

end RDS
