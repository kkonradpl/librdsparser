import RdsProofs.Frame
import RdsProofs.MonGroup
/-!
# RdsProofs.LinkBase — per-setter lemmas for the refinement relation `Link`

`LinkL` is `Link` strengthened by the two AF bitmap lengths (needed so that `List.set` takes effect); the per-setter
lemmas are `linkL_setField` (from `bufUpdate_recv`) and `linkL_addAf` (from `afLink_recv`). `LinkL.congr`: the texts
are not read.
-/
namespace RDS

/-- extended check, `v` received twice running: both stages hold it -/
theorem bufUpdate_again (u v : Int) : (bufUpdate true u v v).1 = v ∧ (bufUpdate true u v v).2.1 = v := by
  unfold bufUpdate; split
  · next h => exact ⟨by simpa using h, rfl⟩
  · exact ⟨rfl, rfl⟩

/-- extended check, `v` is not the candidate: it becomes the candidate and the shown value stays -/
theorem bufUpdate_first (u t v : Int) (h : t ≠ v) : bufUpdate true u t v = (u, v, false) := by
  simp [bufUpdate, h]

theorem bufUpdate_recv {ext : Bool} {unk used temp : Int} (v : Int) {f : AFld}
    (h : FInv ext unk used temp f) :
    FInv ext unk (bufUpdate ext used temp v).1 (bufUpdate ext used temp v).2.1 (f.recv ext v) := by
  obtain ⟨hvis, htemp, hnone⟩ := h
  cases ext
  · -- normal mode: `v` is shown at once, whatever the buffers held
    exact ⟨bufUpdate_fst_normal used temp v, nofun, nofun⟩
  -- extended check: `temp` holds the previous reception, or the reset value if there was none
  have htemp := htemp rfl
  show FInv true unk _ _ ⟨some v, if f.last = some v then v else f.vis⟩
  by_cases hv : temp = v
  · -- `v` twice running: shown on both sides. If there was no previous reception, `v` is the reset value, which
    -- `vis` still is.
    subst hv
    have hm : (if f.last = some temp then temp else f.vis) = temp := by
      cases hl : f.last with
      | none => rw [if_neg nofun, hnone hl, htemp, hl]; rfl
      | some w => rw [htemp, hl]; exact if_pos rfl
    rw [(bufUpdate_again used temp).1, (bufUpdate_again used temp).2, hm]
    exact ⟨rfl, fun _ => rfl, nofun⟩
  · -- `v` is new: it becomes the candidate on both sides, and what is shown stays
    have hm : f.last ≠ some v := fun e => hv (by rw [htemp, e]; rfl)
    rw [bufUpdate_first _ _ _ hv, if_neg hm]
    exact ⟨hvis, fun _ => rfl, nofun⟩

structure LinkL (m : Mon) (s : State) : Prop where
  link : Link m s
  usedLen : s.used.af.length = afBits
  tempLen : s.temp.af.length = afBits

section
variable {m : Mon} {s s' : State}
theorem linkL_of_WF {tb : Tabs} (hl : Link m s) (hw : WF tb s) : LinkL m s :=
  ⟨hl, hw.usedAfLen, hw.tempAfLen⟩

theorem Link.noTxt : Link m s.noTxt ↔ Link m s := ⟨fun h => { h with }, fun h => { h with }⟩

/-- `Link` does not read the texts: a state that agrees with `s` on the rest is linked to the same monitor -/
theorem LinkL.congr (h : LinkL m s) (e : s'.noTxt = s.noTxt) : LinkL m s' :=
  ⟨Link.noTxt.1 (e ▸ Link.noTxt.2 h.link), (congrArg (·.used.af.length) e :).trans h.usedLen,
    (congrArg (·.temp.af.length) e :).trans h.tempLen⟩
end

/-- `setField` on the model against `recvF` on the monitor; the two values need only agree
when the monitor is `clean` (this is what `group1`'s country lookup needs). -/
theorem linkL_setField (m : Mon) (s : State) (f : Fld) (v v' : Int) (h : LinkL m s)
    (hv : m.clean = true → v = v') : LinkL (m.recvF f v) (setField s f v').1 := by
  have hl := h.link
  refine ⟨?_, by simpa using h.usedLen, by simpa using h.tempLen⟩
  exact
  { set := by simpa using hl.set
    ext := by simpa using hl.ext
    cbs := by simpa using hl.cbs
    ud := by simpa using hl.ud
    lastFlag := by simpa using hl.lastFlag
    cntLen := by simpa using hl.cntLen
    cntInvalid := by simpa using hl.cntInvalid
    fields := by
      intro hc f'
      simp only [Mon.recvF_clean] at hc
      cases hv hc
      simp only [setField_set]
      by_cases hf : f' = f
      · subst hf
        rw [setField_used_get, setField_temp_get, Mon.recvF_fld_same, hl.ext]
        exact bufUpdate_recv _ (hl.fields hc f')
      · rw [setField_used_get_ne _ _ _ _ hf, setField_temp_get_ne _ _ _ _ hf,
          Mon.recvF_fld_ne _ _ _ _ hf]
        exact hl.fields hc f'
    af := fun hc => by simpa using hl.af (by simpa using hc)
    quiet := fun hq => by simp at hq }

theorem getD_ite_set_self {α} {b : Bool} {l : List α} {v : Nat} {x d : α} (h : v < l.length) :
    (if b then l else l.set v x).getD v d = if b then l.getD v d else x := by
  cases b
  · exact getD_set_self _ _ _ _ h
  · rfl
theorem getD_ite_set_ne {α} {b : Bool} {l : List α} {v w : Nat} {x d : α} (h : v ≠ w) :
    (if b then l else l.set v x).getD w d = l.getD w d := by
  cases b
  · exact getD_set_ne _ _ _ _ _ h
  · rfl

/-- one more reception of code `v`: the closed form of `addAf` (`addAf_valid_af`) against the bumped count -/
theorem afLink_recv {ext : Bool} {used temp : List Bool} {cnt : List Nat} {v : Nat} (hv : v < afBits)
    (hu : used.length = afBits) (ht : temp.length = afBits) (hc : cnt.length = afBits)
    (h : AfLink ext used temp cnt) :
    AfLink ext (if used.getD v false || (ext && !temp.getD v false) then used else used.set v true)
      (if used.getD v false || !(ext && !temp.getD v false) then temp else temp.set v true)
      (cnt.set v (cnt.getD v 0 + 1)) := by
  intro w hw
  obtain ⟨a1, a2⟩ := h w hw
  by_cases hwv : v ≠ w
  · -- another code: neither its bits nor its count move
    rw [getD_set_ne _ _ _ _ _ hwv, getD_ite_set_ne hwv, getD_ite_set_ne hwv]
    exact ⟨a1, a2⟩
  cases Decidable.of_not_not hwv
  rw [getD_set_self _ _ _ _ (hc ▸ hv), getD_ite_set_self (hu ▸ hv), getD_ite_set_self (ht ▸ hv), a1]
  generalize cnt.getD v 0 = c at a2 ⊢
  cases ext
  · -- normal mode: listed from the first reception on
    simp
  -- extended check, by the number `c` of earlier receptions: the bit of `temp` says "at least one", that of `used`
  -- "at least two"
  rw [a2 rfl]
  rcases (by omega : c = 0 ∨ c = 1 ∨ 2 ≤ c) with rfl | rfl | h2
  · -- the first: candidate, not listed
    decide
  · -- the second: the candidate is listed
    decide
  · -- listed already: nothing moves
    simp [h2]; omega

theorem Mon.afCount_of_not_anyRecv (m : Mon) (h : m.anyRecv = false) (v : Nat) : m.afCount.getD v 0 = 0 := by
  simp only [Mon.anyRecv, Bool.or_eq_false_iff, List.any_eq_false, decide_eq_true_eq, gt_iff_lt, Nat.not_lt,
    Nat.le_zero_eq] at h
  rw [List.getD_eq_getElem?_getD]
  cases hx : m.afCount[v]? with
  | none => rfl
  | some x => exact h.2 x (List.mem_of_getElem? hx)

theorem linkL_addAf (m : Mon) (s : State) (v : Nat) (h : LinkL m s) :
    LinkL (m.afRecv v) (addAf s v).1 := by
  cases hv : afValid v
  · rw [addAf_invalid _ _ hv, Mon.afRecv_invalid _ _ hv]; exact h
  have hl := h.link
  have hvlt := afValid_lt hv
  have hcnt : (m.afRecv v).afCount = m.afCount.set v (m.afCount.getD v 0 + 1) :=
    (Mon.afRecv_afCount m v).trans (if_pos hv)
  obtain ⟨e1, e2⟩ := addAf_valid_af s v hv
  have len {l : List Bool} {b : Bool} (hl : l.length = afBits) : (if b then l else l.set v true).length = afBits := by
    split
    · exact hl
    · rw [List.length_set]; exact hl
  refine ⟨?_, e1 ▸ len h.usedLen, e2 ▸ len h.tempLen⟩
  exact
  { set := by simpa using hl.set
    ext := by simpa using hl.ext
    cbs := by simpa using hl.cbs
    ud := by simpa using hl.ud
    lastFlag := by simpa using hl.lastFlag
    cntLen := by rw [hcnt, List.length_set]; exact hl.cntLen
    cntInvalid := by
      intro w hw
      have hne : v ≠ w := by intro e; subst e; rw [hv] at hw; cases hw
      rw [hcnt, getD_set_ne _ _ _ _ _ hne]
      exact hl.cntInvalid w hw
    fields := fun hc f => by simpa using hl.fields (by simpa using hc) f
    af := by
      intro hc
      rw [e1, e2, hcnt, addAf_set]
      exact afLink_recv hvlt h.usedLen h.tempLen hl.cntLen (hl.af (by simpa using hc))
    quiet := by
      intro hq
      have := Mon.afCount_of_not_anyRecv _ hq v
      rw [hcnt, getD_set_self _ _ _ _ (hl.cntLen ▸ hvlt)] at this
      cases this }

end RDS
