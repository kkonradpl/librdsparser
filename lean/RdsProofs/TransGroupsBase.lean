import RdsProofs.TransAbs
import RdsProofs.TransBuffer
/-!
# RdsProofs.TransGroupsBase — `rdsparser_ecc_lookup`, `rdsparser_group_parse`, `rdsparser_group1_parse`,
`rdsparser_group4_parse`

Each handler is unfolded once, its getters rewritten (`TransBits`), and what is left is a composition of refined steps
(`tg_Ref_then`, `tg_Ref_ite`, `tg_Step` of `TransAbs.lean`).
-/

namespace RDS.C
open RDS
open RDS.C.TransBits

/-- the table part of `rdsparser_ecc_lookup`, as a function of the PI country nibble: the `if` cascade of the translated
function copied by hand, tied by `tg_ecc_shape`; `tg_eccCore_range` walks its four arms in this order -/
def tg_eccCore (pc : Int) (ecc : Int) : Int :=
    let pi_id : Int := u8 (pc - 1)
    if decide (160 ≤ ecc) && decide (ecc ≤ 166) then
      let ecc_id : Int := u8 (ecc - 160)
      getI (getL c_rdsparser_ecc_a0_a6_lut ecc_id) pi_id
    else
      if decide (208 ≤ ecc) && decide (ecc ≤ 212) then
        let ecc_id : Int := u8 (ecc - 208)
        getI (getL c_rdsparser_ecc_d0_d4_lut ecc_id) pi_id
      else
        if decide (224 ≤ ecc) && decide (ecc ≤ 229) then
          let ecc_id : Int := u8 (ecc - 224)
          getI (getL c_rdsparser_ecc_e0_e5_lut ecc_id) pi_id
        else
          if decide (240 ≤ ecc) && decide (ecc ≤ 244) then
            let ecc_id : Int := u8 (ecc - 240)
            getI (getL c_rdsparser_ecc_f0_f4_lut ecc_id) pi_id
          else
            0

theorem tg_ecc_shape (pi ecc : Int) :
    c_rdsparser_ecc_lookup pi ecc =
      if (pi != -1 && u8 (band (shr pi 12) 15) != 0) = true then tg_eccCore (u8 (band (shr pi 12) 15)) ecc else 0 :=
  rfl

/-! Every value the look-up returns is below a bound `B` that holds of every entry of the four LUTs of `ecc.c` (out of
range the translation reads 0). -/

theorem tg_tab_range (B : Int) (hB : 0 < B) (T : List (List Int)) (hT : ∀ row ∈ T, ∀ x ∈ row, 0 ≤ x ∧ x < B) (i j : Int) :
    0 ≤ getI (getL T i) j ∧ getI (getL T i) j < B :=
  forall_getD (forall_getD hT (fun _ h => absurd h List.not_mem_nil) _) ⟨Int.le_refl 0, hB⟩ _

section
variable (B : Int) (hB : 0 < B)
  (hT : ∀ T ∈ [c_rdsparser_ecc_a0_a6_lut, c_rdsparser_ecc_d0_d4_lut, c_rdsparser_ecc_e0_e5_lut, c_rdsparser_ecc_f0_f4_lut],
    ∀ row ∈ T, ∀ x ∈ row, 0 ≤ x ∧ x < B)
include hB hT

theorem tg_eccCore_range (pc ecc : Int) : 0 ≤ tg_eccCore pc ecc ∧ tg_eccCore pc ecc < B := by
  -- a test between two values in range yields a value in range; the five ways out are four table entries and 0
  have ite {c : Prop} [Decidable c] {a b : Int} (ha : 0 ≤ a ∧ a < B) (hb : 0 ≤ b ∧ b < B) :
      0 ≤ (if c then a else b) ∧ (if c then a else b) < B := by split <;> assumption
  exact ite (tg_tab_range B hB _ (hT _ (.head _)) _ _)
    (ite (tg_tab_range B hB _ (hT _ (.tail _ (.head _))) _ _)
      (ite (tg_tab_range B hB _ (hT _ (.tail _ (.tail _ (.head _)))) _ _)
        (ite (tg_tab_range B hB _ (hT _ (.tail _ (.tail _ (.tail _ (.head _))))) _ _) ⟨Int.le_refl 0, hB⟩)))

theorem tg_ecc_range (pi ecc : Int) : 0 ≤ c_rdsparser_ecc_lookup pi ecc ∧ c_rdsparser_ecc_lookup pi ecc < B := by
  rw [tg_ecc_shape]
  split
  · exact tg_eccCore_range B hB hT _ _
  · exact ⟨Int.le_refl 0, hB⟩

end

theorem tg_luts_u8 :
    ∀ T ∈ [c_rdsparser_ecc_a0_a6_lut, c_rdsparser_ecc_d0_d4_lut, c_rdsparser_ecc_e0_e5_lut, c_rdsparser_ecc_f0_f4_lut],
      ∀ row ∈ T, ∀ x ∈ row, 0 ≤ x ∧ x < 256 := by
  decide +kernel

theorem tg_ecc_nib (p : Nat) (ecc : Int) :
    c_rdsparser_ecc_lookup (p : Int) ecc =
      if p / 4096 % 16 = 0 then 0 else tg_eccCore ((p / 4096 % 16 : Nat) : Int) ecc := by
  have hne : ((p : Int) != -1) = true := by rw [bne_iff_ne]; omega
  have hpc : u8 (band (shr (p : Int) 12) 15) = ((p / 4096 % 16 : Nat) : Int) := wrap_band_shr p 12 4 8 (by decide)
  rw [tg_ecc_shape, hpc, hne, Bool.true_and, natCast_bne_zero]
  by_cases h : p / 4096 % 16 = 0
  · rw [if_pos h, h]; rfl
  · rw [if_neg h, if_pos (by simpa using h)]

theorem ecc_lookup_refines (u : Bool) (pi : Int) (hpi : -1 ≤ pi ∧ pi < 65536) (e : Nat) (he : e < 256) :
    c_rdsparser_ecc_lookup pi (e : Int) = eccLookup (cfgC u) pi (e : Int) ∧
    0 ≤ c_rdsparser_ecc_lookup pi (e : Int) ∧ c_rdsparser_ecc_lookup pi (e : Int) < 256 := by
  refine ⟨?_, tg_ecc_range 256 (by decide) tg_luts_u8 _ _⟩
  by_cases hm : pi = -1
  · subst hm
    simp [tg_ecc_shape, eccLookup]
  · obtain ⟨p, rfl⟩ : ∃ p : Nat, pi = (p : Int) := ⟨pi.toNat, by omega⟩
    unfold eccLookup
    simp only [hm, if_false, Int.toNat_natCast, cfgC, tg_ecc_nib p]
    by_cases hn : p / 4096 % 16 = 0
    · rw [if_pos hn, if_pos hn]
    · -- `cfgC` looks the nibble up as the PI `nibble * 4096`, whose nibble it is
      rw [if_neg hn, if_neg hn,
        show ((p / 4096 % 16 : Nat) : Int) * 4096 = ((p / 4096 % 16 * 4096 : Nat) : Int) from (Int.natCast_mul _ 4096).symm,
        tg_ecc_nib, Nat.mul_div_cancel _ (by decide), Nat.mod_mod, if_neg hn,
        Int.toNat_of_nonneg (tg_eccCore_range 256 (by decide) tg_luts_u8 _ _).1]

/-- nested C tests with a common way out are one test -/
theorem tg_ite_ite {α : Type} (a b : Bool) (x y : α) :
    (if a = true then (if b = true then x else y) else y) = if (a && b) = true then x else y := by
  cases a <;> cases b <;> rfl

theorem tg_ite_ite_not {α : Type} (a b : Bool) (x y : α) :
    (if a = true then (if b = true then y else x) else y) = if (a && !b) = true then x else y := by
  cases a <;> cases b <;> rfl

theorem tg_err0 (g : Group) : (errorsOf g).getD 0 0 = (g.ea : Int) := rfl
theorem tg_err1 (g : Group) : (errorsOf g).getD 1 0 = (g.eb : Int) := rfl
theorem tg_err2 (g : Group) : (errorsOf g).getD 2 0 = (g.ec : Int) := rfl
theorem tg_err3 (g : Group) : (errorsOf g).getD 3 0 = (g.ed : Int) := rfl

theorem tg_bne0 (n : Nat) : (((n : Int)) != 0) = !decide (n = 0) := by
  rw [bne, natCast_beq_lit]

theorem tg_group_parse (r : C_librdsparser) (hI : CInv r) (g : Group) (hg : g.Bounded) (log : CLog) :
    tg_Ref log (c_rdsparser_group_parse r (dataOf g) (errorsOf g) log) (groupCommon (abs r) g) := by
  obtain ⟨ha, hb, -⟩ := hg
  -- PTY and TP are passed to the `int8_t` parameters (`rdsparser_pty_t`, `rdsparser_tp_t`) of `rdsparser_set_pty/tp`: the
  -- `i8 (…)` of the translation; `groupCommon` reads no table, so any configuration gives its pieces
  rw [groupCommon_eq_pieces (cfgC false)]
  simp only [c_rdsparser_group_parse, Prod.eta, group_get_pi, group_get_pty, group_get_tp,
    i8_natCast_of_lt (show g.b / 32 % 32 < 128 by omega), i8_natCast_of_lt (show g.b / 1024 % 2 < 128 by omega)]
  exact (tg_Step.seq (tg_Step.ite (natCast_beq_lit g.ea 0) (tg_Step.setField .pi g.a ha) tg_Step.skip)
    (tg_Step.ite (natCast_beq_lit g.eb 0)
      (tg_Step.seq (tg_Step.setField .pty (g.b / 32 % 32) (Nat.mod_lt _ (by decide)))
        (tg_Step.setField .tp (g.b / 1024 % 2) (Nat.mod_lt _ (by decide))))
      tg_Step.skip) r log hI :)

theorem tg_group1 (u : Bool) (r : C_librdsparser) (hI : CInv r) (g : Group) (log : CLog) :
    tg_Ref log (c_rdsparser_group1_parse r (dataOf g) (errorsOf g) (tg_flag g) log) (group1 (cfgC u) (abs r) g) := by
  have hcond : (tg_flag g == 0 && ((g.eb : Int) == 0 && (g.ec : Int) == 0 && ((g.c / 4096 % 8 : Nat) : Int) == 0)) =
      decide ((!g.versionB && decide (g.eb = 0) && decide (g.ec = 0) && decide (g.c / 4096 % 8 = 0)) = true) := by
    simp only [tg_flag_beq, natCast_beq_lit, Bool.decide_eq_true, Bool.and_assoc]
  -- the C tests version, error levels and variant one inside the other; the model tests their conjunction.
  -- By hand and not a `tg_Step` composition: the country written is looked up with the PI read AFTER `set_ecc`, so the
  -- second call's argument is a function of the intermediate state
  simp only [c_rdsparser_group1_parse, c_rdsparser_group1a_parse, Prod.eta, tg_ite_ite, group1a_get_variant, group1a0_get_ecc,
    tg_err1, tg_err2]
  refine tg_Ref_ite hcond (fun _ => ?_) (fun _ => tg_Ref_refl r log hI)
  refine tg_Ref_then (fun s => setField s .country (eccLookup (cfgC u) s.used.pi ((g.c % 256 : Nat) : Int)))
    (set_field_refines .ecc r hI _ (fldRange_natCast .ecc (g.c % 256) (Nat.mod_lt _ (by decide))) log) (fun hI1 => ?_)
  have hl := ecc_lookup_refines u (c_rdsparser_get_pi (c_rdsparser_set_ecc r ((g.c % 256 : Nat) : Int) log).1)
    hI1.used.pi (g.c % 256) (Nat.mod_lt _ (by decide))
  rw [hl.1]
  exact set_field_refines .country _ hI1 _ (hl.1 ▸ hl.2) _

theorem tg_group4 (r : C_librdsparser) (hI : CInv r) (g : Group) (hg : g.Bounded) (log : CLog) :
    tg_Ref log (r, c_rdsparser_group4_parse r (dataOf g) (errorsOf g) (tg_flag g) log) (group4 (abs r) g) := by
  obtain ⟨-, -, hc, hd, -⟩ := hg
  obtain ⟨hr1, hr2, hr3, hr4⟩ := ctFields_range g hc
  have hinit := ct_init_eq C_rdsparser_ct.zero _ _ _ _ hr2 hr3 hr4 hr1
  have hreg : (abs r).registered .ct = (r.callback_ct != 0) := rfl
  simp only [c_rdsparser_group4_parse, c_rdsparser_group4a_parse, group4a_get_mjd g hc, group4a_get_hour g hd,
    group4a_get_minute, group4a_get_time_offset, i8_natCast_of_lt (Nat.lt_trans hr2 (by decide)),
    i8_natCast_of_lt (Nat.lt_trans hr3 (by decide)), hinit, tg_flag_beq, tg_err1, tg_err2, tg_err3, natCast_beq_lit]
  unfold group4
  rw [hreg]
  cases hcb : r.callback_ct != 0
  · simp only [Bool.false_eq_true, if_false, ite_self, Bool.and_false]
    exact tg_Ref_refl r log hI
  · cases hv : ctInit (ctFields g).1 (ctFields g).2.1 (ctFields g).2.2.1 (ctFields g).2.2.2 with
    | none =>
      simp only [hv, bne_self_eq_false, Bool.false_eq_true, if_false, ite_self]
      exact tg_Ref_refl r log hI
    | some v =>
      simp only [hv, if_true, Bool.and_true, tg_ite_ite, show ((1 : Int) != 0) = true from rfl, ← Bool.and_assoc]
      rw [apply_ite (Prod.mk r)]
      refine tg_Ref_ite Bool.decide_eq_true.symm (fun _ => ⟨rfl, ?_, hI⟩) (fun _ => tg_Ref_refl r log hI)
      have ho := ctInit_offsetMin _ _ _ _ v hv
      rw [tb_absLog_snoc, emit, if_pos (hreg.trans hcb)]
      -- with `ho : v.offsetMin = off * 30` substituted, the logged callback's arguments are the fields of `v`
      cases v; cases ho; rfl

end RDS.C

#print axioms RDS.C.ecc_lookup_refines
#print axioms RDS.C.tg_group_parse
#print axioms RDS.C.tg_group1
#print axioms RDS.C.tg_group4
