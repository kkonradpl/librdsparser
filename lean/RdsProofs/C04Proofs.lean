import RdsProofs.C04Handlers
import RdsProofs.C04Redeliver
import RdsProofs.MonGroup
import RdsProofs.C08Cb
/-!
# C04: callbacks against getter changes (`chkC04`), and the re-delivered group (`chkC04redeliver`)
-/
namespace RDS

theorem rtComp_eq (g : Group) (X : Comp) :
    X = rtComp g ↔ (X = .rt0 ∧ g.b / 16 % 2 = 0) ∨ (X = .rt1 ∧ g.b / 16 % 2 = 1) := by
  unfold rtComp
  have hf : g.b / 16 % 2 = 0 ∨ g.b / 16 % 2 = 1 := by omega
  rcases hf with h | h <;> simp [h]

theorem mem_forcedOf {s : State} {g : Group} {X : Comp} :
    X ∈ forcedOf s g ↔ (g.type = 2 ∧ g2clr s g = true) ∧
      ((X = .rt0 ∧ g.b / 16 % 2 = 0) ∨ (X = .rt1 ∧ g.b / 16 % 2 = 1)) := by
  rw [← rtComp_eq]; unfold forcedOf; split <;> simp_all

theorem cnt_ok {T F : List Comp} {s : State} {r : State × List Event} (h : HOk T F s r)
    (X : Comp) (hX : X ≠ .af) (chg : Bool) (hchg : chg = true ↔ (X.view r.1 ≠ X.view s ∨ X ∈ F)) :
    cntOk s.cbs (r.2.map EvObs.ofEvent) X.cb X.kindP chg := by
  unfold cntOk
  cases hr : s.cbs.getD X.cb.idx false
  · rfl
  · have := h.cnt X hX hr
    rw [countKind_map, this]
    by_cases hc : chg = true
    · rw [if_pos (hchg.1 hc), hc]; rfl
    · rw [if_neg (fun hh => hc (hchg.2 hh))]
      simp only [Bool.not_eq_true] at hc
      rw [hc]; rfl

theorem ownChk_of_ownGood {fin : State} {e : Event} (h : ownGood fin e) :
    ownChk (Obs.ofState fin) (EvObs.ofEvent e) = true := by
  obtain ⟨k, u, sn⟩ := e
  cases k <;> simp only [ownGood] at h <;>
    simp [ownChk, EvObs.ofEvent, Obs.ofState, TextObs.ofText, h]
  case rt f => simp [State.rt]
  case af k => rw [← List.getD_eq_getElem?_getD]; exact h

theorem chkC04_ok (cfg : Cfg) (m : Mon) (s : State) (op : Op) (hl : Link m s)
    (hlen : s.used.af.length = afBits) :
    chkC04 m (recOf cfg s op) = true := by
  cases hg : op.group? with
  | none => simp [chkC04, recOf, hg]
  | some g =>
    rw [chkC04_iff (show (recOf cfg s op).op.group? = some g from hg), hl.cbs]
    have H := HOk_process cfg s g hlen
    simp only [recOf, step_group cfg s hg, switchDiscard_g2clr g hl.lastFlag]
    generalize process cfg s g = P at H
    exact
    { sc := fun f => cnt_ok H (.sc f) nofun _ (by simp [Comp.view, mem_forcedOf, Obs.ofState])
      ps := cnt_ok H .ps nofun _ (by simp [Comp.view, mem_forcedOf, Obs.ofState, TextObs.ofText])
      ptyn := cnt_ok H .ptyn nofun _ (by simp [Comp.view, mem_forcedOf, Obs.ofState, TextObs.ofText])
      rt0 := cnt_ok H .rt0 nofun _ (by simp [Comp.view, mem_forcedOf, Obs.ofState, TextObs.ofText, and_assoc])
      rt1 := cnt_ok H .rt1 nofun _ (by simp [Comp.view, mem_forcedOf, Obs.ofState, TextObs.ofText, and_assoc])
      rtBad := by
        cases s.cbs.getD Cb.rt.idx false
        · rfl
        · have := H.rtBad
          rw [← countKind_map] at this
          simp only [Bool.not_true, Bool.false_or, beq_iff_eq]
          exact this
      af := by
        cases hr : s.cbs.getD Cb.af.idx false
        · rfl
        · simp only [Bool.not_true, Bool.false_or, Bool.and_eq_true, beq_iff_eq, decide_eq_true_eq]
          exact H.af hr
      own := by
        rw [List.all_eq_true]
        intro e he
        obtain ⟨e', he', rfl⟩ := List.mem_map.1 he
        exact ownChk_of_ownGood (H.own e' he') }

theorem Mon.step_prevGroup {cfg : Cfg} {m : Mon} {op : Op} {g0 : Group}
    (h : (m.step cfg op).prevGroup = some g0) : op.group? = some g0 ∧ (m.step cfg op).ext = m.ext := by
  cases op <;> simp only [Mon.step, reduceCtorEq] at h
  case parse g =>
    refine ⟨h, ?_⟩
    simp only [Mon.step, Op.group?]
    exact Mon.group_ext cfg m g
  case parseString b =>
    refine ⟨h, ?_⟩
    simp only [Mon.step, h]
    exact Mon.group_ext cfg m g0

theorem chkC04redeliver_ok (cfg : Cfg) (m0 : Mon) (s0 : State) (op0 op : Op) (hl : Link m0 s0)
    (hlen : s0.used.af.length = afBits) :
    chkC04redeliver (m0.step cfg op0) (recOf cfg (step cfg s0 op0).1 op) = true := by
  unfold chkC04redeliver
  cases hg : op.group? with
  | none => simp [recOf, hg]
  | some g =>
    cases hp : (m0.step cfg op0).prevGroup with
    | none => simp [recOf, hg]
    | some g0 =>
      obtain ⟨hg0, hext⟩ := Mon.step_prevGroup hp
      simp only [recOf, hg]
      by_cases hc : g = g0 ∧ (m0.step cfg op0).ext = false
      · obtain ⟨rfl, he⟩ := hc
        have hext0 : s0.set.ext = false := by rw [← hl.ext, ← hext]; exact he
        rw [step_group _ _ hg0, step_group _ _ hg]
        obtain ⟨t, h1, h2⟩ := redeliver_core cfg s0 g hext0 hlen
        simp only [h1, Obs.ofState_withTemp]
        have hs : ∀ o : Obs, o.sameData o = true := by intro o; simp [Obs.sameData]
        rw [hs, Bool.and_true]
        rw [Bool.or_eq_true]
        right
        rw [List.all_eq_true]
        intro e he
        obtain ⟨e', he', rfl⟩ := List.mem_map.1 he
        obtain ⟨v, hv⟩ := h2 e' he'
        simp [hv]
      · have : (g == g0 && !(m0.step cfg op0).ext) = false := by
          cases hx : (m0.step cfg op0).ext
          · have : g ≠ g0 := fun h => hc ⟨h, hx⟩
            simp [this]
          · simp
        rw [this]; rfl
end RDS

#print axioms RDS.chkC04_ok
#print axioms RDS.chkC04redeliver_ok
