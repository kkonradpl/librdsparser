import RdsModel
import RdsSpec.Monitors
/-!
# RdsProofs.C12Calendar — the calendar and clock arithmetic of C12

`civilFromDays z` (era / day-of-era algorithm of `RdsModel.Ct`) is, for every integer `z`, a valid
proleptic-Gregorian date whose Modified Julian Day (as defined by the specification functions
`mjdOf`/`ordinal` of `RdsSpec.Monitors`) is `z - 678881`.

Route: day-of-era → year-of-era by decomposing `doe = 1461·a + s − c` (`c` the century, `a = 25c + q`
the index of the 4-year cycle, `s` the day in it): then `doe / 1460 = a + e`, `yoeI doe = 4a + t` with
`e = (a+s−c)/1460`, `t = (s−e)/365 ∈ {0..3}`, and `ysI (4a+t) = 1461a + 365t − c`, so the bracket is
`365t ≤ s < 365(t+1)` (one day more in the leap slot). Month/day: `daysBeforeMonth`/`daysInMonth` of the
month computed from `mp` as closed expressions in `(153·mp+2)/5` (`month_mar_dec`, `month_jan_feb`),
then linear arithmetic.
On top of it `ctInit_correct`: the half-hour offset is carried from minutes into hours and from hours into
days (`C12.carry` twice, `C12.ct_arith`), and the day number goes through `civilFromDays`.
The lemmas are cut so that each `omega` call sees only the hypotheses it needs: division facts left in its sight
(`doe/36524 = c` …) make it much slower.
-/
namespace RDS
namespace C12

def fnI (n : Int) : Int := n - n/1460 + n/36524 - n/146096
def yoeI (n : Int) : Int := fnI n / 365
def ysI (y : Int) : Int := 365*y + y/4 - y/100

theorem doe_split (doe : Int) (h0 : 0 ≤ doe) (h1 : doe < 146096) :
    ∃ a c s : Int, doe / 36524 = c ∧ doe = 1461*a + s - c ∧ 25*c ≤ a ∧ a ≤ 25*c + 24 ∧ 0 ≤ c ∧
      c ≤ 3 ∧ 0 ≤ s ∧ s ≤ 1460 ∧ 1461*a + s ≤ 36525*c + 36523 := by
  refine ⟨25*(doe / 36524) + doe % 36524 / 1461, doe / 36524, doe % 36524 % 1461, rfl, ?_⟩
  omega

theorem yoeI_eq (x a c s : Int) (hz : x / 146096 = 0) (hc : x / 36524 = c)
    (hd : x = 1461*a + s - c) : yoeI x = 4*a + (s - (a+s-c)/1460)/365 := by
  have i0 : 1461*a + s - c = (a+s-c) + 1460*a := by omega
  have i1 : x / 1460 = (a+s-c)/1460 + a := by rw [hd, i0, Int.add_mul_ediv_left _ _ (by decide)]
  have div365 : ∀ r : Int, (365*(4*a) + r) / 365 = 4*a + r/365 := fun r => by
    rw [Int.add_comm, Int.add_mul_ediv_left _ _ (by decide), Int.add_comm]
  unfold yoeI fnI
  rw [hz, hc, i1, ← div365]
  clear hz hc i0 i1 div365
  congr 1
  generalize (a+s-c)/1460 = e
  omega

theorem yearInCycle_bounds (a c s : Int) (H1 : 25*c ≤ a) (H2 : a ≤ 25*c + 24) (H3 : 0 ≤ c) (H4 : c ≤ 3)
    (H5 : 0 ≤ s) (H6 : s ≤ 1460) :
    0 ≤ (s - (a+s-c)/1460)/365 ∧ (s - (a+s-c)/1460)/365 ≤ 3 ∧ 365*((s - (a+s-c)/1460)/365) ≤ s ∧
    ((s - (a+s-c)/1460)/365 ≤ 2 → s ≤ 365*((s - (a+s-c)/1460)/365) + 364) := by
  omega

theorem ysI_le (x a c s t : Int) (hd : x = 1461*a + s - c) (H1 : 25*c ≤ a)
    (ht3 : t ≤ 3) (ht : 365*t ≤ s) : ysI (4*a + t) ≤ x := by
  unfold ysI; omega

theorem lt_ysI_succ (x a c s t w : Int) (hd : x = 1461*a + s - c) (H2 : a ≤ 25*c + 24)
    (ht0 : 0 ≤ t) (ht : s ≤ 365*t + 364) (hw : 0 ≤ w) : x < ysI (4*a + t + 1) + w := by
  unfold ysI; omega

theorem lt_ysI_succ_leap (x a c s w : Int) (hd : x = 1461*a + s - c)
    (H6 : s ≤ 1460) (H7 : 1461*a + s ≤ 36525*c + 36523) (hw : 0 ≤ w) :
    x < ysI (4*a + 3 + 1) + w := by
  unfold ysI; omega

theorem yoe_range (a c t : Int) (H1 : 25*c ≤ a) (H2 : a ≤ 25*c + 24) (H3 : 0 ≤ c) (H4 : c ≤ 3)
    (ht0 : 0 ≤ t) (ht3 : t ≤ 3) : 0 ≤ 4*a + t ∧ 4*a + t < 400 := by omega

theorem yoeI_bracket (doe : Int) (h0 : 0 ≤ doe) (h1 : doe < 146097) :
    0 ≤ yoeI doe ∧ yoeI doe < 400 ∧ ysI (yoeI doe) ≤ doe ∧
      doe < ysI (yoeI doe + 1) + (if yoeI doe = 399 then 1 else 0) := by
  by_cases hlt : doe < 146096
  · obtain ⟨a, c, s, hc, hd, H1, H2, H3, H4, H5, H6, H7⟩ := doe_split doe h0 hlt
    rw [yoeI_eq doe a c s (Int.ediv_eq_zero_of_lt h0 hlt) hc hd]
    obtain ⟨ht0, ht3, ht, ht'⟩ := yearInCycle_bounds a c s H1 H2 H3 H4 H5 H6
    generalize (s - (a+s-c)/1460)/365 = t at *
    have hw : (0:Int) ≤ if 4*a + t = 399 then 1 else 0 := by split <;> decide
    obtain ⟨r0, r1⟩ := yoe_range a c t H1 H2 H3 H4 ht0 ht3
    refine ⟨r0, r1, ysI_le doe a c s t hd H1 ht3 ht, ?_⟩
    by_cases h2 : t ≤ 2
    · exact lt_ysI_succ doe a c s t _ hd H2 ht0 (ht' h2) hw
    · have h3 : t = 3 := Int.le_antisymm ht3 (Int.not_le.mp h2)
      subst h3
      exact lt_ysI_succ_leap doe a c s _ hd H6 H7 hw
  · have hlast : doe = 146096 := Int.le_antisymm (Int.le_of_lt_add_one h1) (Int.not_lt.mp hlt)
    subst hlast; decide

theorem isLeap_iff (y : Int) : isLeap y = true ↔ ((y % 4 = 0 ∧ y % 100 ≠ 0) ∨ y % 400 = 0) := by
  simp [isLeap]

def lp (y : Int) : Int := if isLeap y then 1 else 0

theorem ordinal_epoch : ordinal 1858 11 17 = 678575 := by decide +kernel

theorem dbm (y : Int) :
    daysBeforeMonth y 1 = 0 ∧ daysBeforeMonth y 2 = 31 ∧ daysBeforeMonth y 3 = 59 + lp y ∧
    daysBeforeMonth y 4 = 90 + lp y ∧ daysBeforeMonth y 5 = 120 + lp y ∧
    daysBeforeMonth y 6 = 151 + lp y ∧ daysBeforeMonth y 7 = 181 + lp y ∧
    daysBeforeMonth y 8 = 212 + lp y ∧ daysBeforeMonth y 9 = 243 + lp y ∧
    daysBeforeMonth y 10 = 273 + lp y ∧ daysBeforeMonth y 11 = 304 + lp y ∧
    daysBeforeMonth y 12 = 334 + lp y := by
  unfold lp
  cases h : isLeap y <;> simp [daysBeforeMonth, List.range_succ, daysInMonth, h]

theorem lp_cases (y : Int) : lp y = 0 ∨ lp y = 1 := by unfold lp; split <;> simp

/-- a year is one day longer exactly when it is a leap year: the three terms of `daysBeforeYear` step where
`y` is a multiple of 4, 100, 400 -/
theorem dby_succ (y : Int) : daysBeforeYear (y + 1) = daysBeforeYear y + 365 + lp y := by
  have h := isLeap_iff y
  unfold daysBeforeYear lp
  rw [Int.add_sub_cancel]
  split
  · rename_i hl; have := h.1 hl; omega
  · rename_i hl
    have : ¬ ((y % 4 = 0 ∧ y % 100 ≠ 0) ∨ y % 400 = 0) := fun c => hl (h.2 c)
    omega

/-- the days up to the end of year `yoe` of era `era`; year 400 of an era is year 0 of the next, one leap day on -/
theorem dby_era (era yoe : Int) (h0 : 0 ≤ yoe) (h1 : yoe ≤ 400) :
    daysBeforeYear (yoe + era * 400 + 1) = 146097 * era + ysI yoe + yoe / 400 := by
  unfold daysBeforeYear ysI; omega

theorem ylen (era yoe : Int) (h0 : 0 ≤ yoe) (h1 : yoe < 400) :
    ysI (yoe + 1) + (if yoe = 399 then 1 else 0) = ysI yoe + 365 + lp (yoe + era * 400 + 1) := by
  -- the year after year `yoe` lies between the two ends of years that `dby_era` gives
  have a := dby_era era yoe h0 (Int.le_of_lt h1)
  have b := dby_era era (yoe + 1) (by omega) (by omega)
  rw [Int.add_right_comm yoe 1, Int.add_right_comm (yoe + era * 400) 1, dby_succ, a, Int.ediv_eq_zero_of_lt h0 h1] at b
  clear a
  split <;> omega

theorem dim_feb (y : Int) : daysInMonth y 2 = 28 + lp y := by
  cases h : isLeap y <;> simp [daysInMonth, lp, h]

theorem month_mar_dec (Y mp : Int) (h0 : 0 ≤ mp) (h9 : mp ≤ 9) :
    daysBeforeMonth Y (mp + 3) = (59 + (153*mp + 2)/5) + lp Y ∧
    daysInMonth Y (mp + 3) = (153*(mp + 1) + 2)/5 - (153*mp + 2)/5 := by
  have hm : mp = 0 ∨ mp = 1 ∨ mp = 2 ∨ mp = 3 ∨ mp = 4 ∨ mp = 5 ∨ mp = 6 ∨ mp = 7 ∨ mp = 8 ∨
      mp = 9 := by omega
  obtain ⟨_, _, m3, m4, m5, m6, m7, m8, m9, m10, m11, m12⟩ := dbm Y
  rcases hm with h|h|h|h|h|h|h|h|h|h <;> subst h
  · exact ⟨m3, rfl⟩
  · exact ⟨m4, rfl⟩
  · exact ⟨m5, rfl⟩
  · exact ⟨m6, rfl⟩
  · exact ⟨m7, rfl⟩
  · exact ⟨m8, rfl⟩
  · exact ⟨m9, rfl⟩
  · exact ⟨m10, rfl⟩
  · exact ⟨m11, rfl⟩
  · exact ⟨m12, rfl⟩

theorem month_jan_feb (Y mp : Int) (h10 : 10 ≤ mp) (h11 : mp ≤ 11) :
    daysBeforeMonth Y (mp - 9) = (153*mp + 2)/5 - 306 ∧
    daysInMonth Y (mp - 9) = if mp = 10 then 31 else 28 + lp Y := by
  have hm : mp = 10 ∨ mp = 11 := by omega
  obtain ⟨m1, m2, _⟩ := dbm Y
  rcases hm with h|h <;> subst h
  · exact ⟨m1, rfl⟩
  · exact ⟨m2, dim_feb Y⟩

theorem mp_range (doe ys doy mp l1 : Int) (hlo : ys ≤ doe) (hhi : doe < ys + 365 + l1)
    (hl1 : l1 = 0 ∨ l1 = 1) (hdoy : doy = doe - ys) (hmp : mp = (5 * doy + 2) / 153) :
    0 ≤ mp ∧ mp ≤ 11 := by
  omega

theorem day_valid (doy mp d : Int) (hmp : mp = (5 * doy + 2) / 153)
    (hd : d = doy - (153 * mp + 2) / 5 + 1) :
    1 ≤ d ∧ d ≤ (153*(mp + 1) + 2)/5 - (153*mp + 2)/5 := by
  omega

theorem mjd_mar_dec (era doe ys doy d A D0 l0 : Int) (hdoy : doy = doe - ys) (hd : d = doy - A + 1)
    (hdby : D0 + l0 = 146097 * era + ys - 365) :
    D0 + (59 + A + l0) + (d - 1) - 678575 = era * 146097 + doe - 678881 := by
  omega

theorem mjd_jan_feb (era doe ys doy d A D0 l0 : Int) (hdoy : doy = doe - ys) (hd : d = doy - A + 1)
    (hdby : D0 + l0 = 146097 * era + ys - 365) :
    D0 + 365 + l0 + (A - 306) + (d - 1) - 678575 = era * 146097 + doe - 678881 := by
  omega

theorem day_valid_jan_feb (doe ys doy mp d l1 : Int) (hhi : doe < ys + 365 + l1) (hdoy : doy = doe - ys)
    (hmp : mp = (5 * doy + 2) / 153) (hd : d = doy - (153 * mp + 2) / 5 + 1) (h10 : 10 ≤ mp) :
    d ≤ if mp = 10 then 31 else 28 + l1 := by
  omega

theorem core (era doe yoe doy mp d : Int) (hy0 : 0 ≤ yoe) (hy1 : yoe < 400)
    (hlo : ysI yoe ≤ doe) (hhi : doe < ysI (yoe + 1) + (if yoe = 399 then 1 else 0))
    (hdoy : doy = doe - ysI yoe) (hmp : mp = (5 * doy + 2) / 153)
    (hd : d = doy - (153 * mp + 2) / 5 + 1) :
    validDate (if (if mp < 10 then mp + 3 else mp - 9) ≤ 2 then yoe + era * 400 + 1 else yoe + era * 400)
        (if mp < 10 then mp + 3 else mp - 9) d = true ∧
    mjdOf (if (if mp < 10 then mp + 3 else mp - 9) ≤ 2 then yoe + era * 400 + 1 else yoe + era * 400)
        (if mp < 10 then mp + 3 else mp - 9) d = era * 146097 + doe - 678881 := by
  have hsucc := dby_succ (yoe + era * 400)
  have hdby : daysBeforeYear (yoe + era * 400) + lp (yoe + era * 400) = 146097 * era + ysI yoe - 365 := by
    have := dby_era era yoe hy0 (Int.le_of_lt hy1)
    rw [hsucc, Int.ediv_eq_zero_of_lt hy0 hy1] at this
    omega
  have hl1 := lp_cases (yoe + era * 400 + 1)
  rw [ylen era yoe hy0 hy1] at hhi
  obtain ⟨h0, h11⟩ := mp_range doe _ doy mp _ hlo hhi hl1 hdoy hmp
  clear hy0 hy1
  simp only [mjdOf]
  simp only [ordinal_epoch]
  simp only [ordinal, validDate, Bool.and_eq_true, decide_eq_true_eq]
  by_cases hm : mp < 10
  · have hn : ¬ mp + 3 ≤ 2 := fun h =>
      absurd (Int.le_trans (Int.add_le_add_right h0 3) h) (by decide)
    have h9 : mp ≤ 9 := Int.le_of_lt_add_one hm
    obtain ⟨ta, tb⟩ := month_mar_dec (yoe + era * 400) mp h0 h9
    rw [if_pos hm, if_neg hn, ta, tb]
    have v := day_valid doy mp d hmp hd
    exact ⟨⟨⟨⟨Int.le_trans (by decide) (Int.add_le_add_right h0 3), Int.add_le_add_right h9 3⟩,
      v.1⟩, v.2⟩, mjd_mar_dec era doe _ doy d _ _ _ hdoy hd hdby⟩
  · have hn : mp - 9 ≤ 2 := Int.sub_le_sub_right h11 9
    have h10 : 10 ≤ mp := Int.not_lt.mp hm
    obtain ⟨ta, tb⟩ := month_jan_feb (yoe + era * 400 + 1) mp h10 h11
    rw [if_neg hm, if_pos hn, ta, tb, hsucc]
    exact ⟨⟨⟨⟨Int.sub_le_sub_right h10 9, Int.le_trans hn (by decide)⟩,
      (day_valid doy mp d hmp hd).1⟩, day_valid_jan_feb doe _ doy mp d _ hhi hdoy hmp hd h10⟩,
      mjd_jan_feb era doe _ doy d _ _ _ hdoy hd hdby⟩

end C12

/-- the date algorithm is exact on every integer day number, negative ones included (floor division
keeps `z % 146097` in the era) -/
theorem civilFromDays_spec (z : Int) :
    let r := civilFromDays z
    validDate r.1 r.2.1 r.2.2 = true ∧ mjdOf r.1 r.2.1 r.2.2 = z - 678881 := by
  have hdoe0 : 0 ≤ z % 146097 := Int.emod_nonneg _ (by decide)
  have hdoe1 : z % 146097 < 146097 := Int.emod_lt_of_pos _ (by decide)
  obtain ⟨hy0, hy1, hlo, hhi⟩ := C12.yoeI_bracket (z % 146097) hdoe0 hdoe1
  have hz' : z = z / 146097 * 146097 + z % 146097 := by omega
  have h := C12.core (z / 146097) (z % 146097) (C12.yoeI (z % 146097)) _ _ _ hy0 hy1 hlo hhi rfl rfl rfl
  rw [← hz'] at h
  exact h

theorem civilFromDays_correct (z : Int) (hz : 0 ≤ z) :
    let r := civilFromDays z
    validDate r.1 r.2.1 r.2.2 = true ∧ mjdOf r.1 r.2.1 r.2.2 = z - 678881 :=
  civilFromDays_spec z

namespace C12
theorem tdm2 (off : Int) : off = 2 * Int.tdiv off 2 + Int.tmod off 2 ∧
    (Int.tmod off 2 = 0 ∨ (Int.tmod off 2 = 1 ∧ 0 < off) ∨ (Int.tmod off 2 = -1 ∧ off < 0)) := by
  -- the remainder of truncating division is -1, 0 or 1 and has the sign of `off`
  have hp := Int.tmod_nonneg 2 (a := off)
  have hn := Int.tmod_nonneg 2 (a := -off)
  rw [Int.neg_tmod] at hn
  refine ⟨(Int.mul_tdiv_add_tmod off 2).symm, ?_⟩
  rcases Int.tmod_two_eq off with h | h | h <;> omega

/-- one carry step of a mixed-radix clock: a digit that has left `[0, B)` by less than `B` is brought
back, the next digit taking ±1 -/
theorem carry (B x hi : Int) (hlo : -B ≤ x) (hhi : x < 2 * B) :
    let hi' : Int := if B ≤ x then hi + 1 else if x < 0 then hi - 1 else hi
    let x' : Int := if B ≤ x then x - B else if x < 0 then B + x else x
    0 ≤ x' ∧ x' < B ∧ hi - 1 ≤ hi' ∧ hi' ≤ hi + 1 ∧ hi' * B + x' = hi * B + x := by
  intro hi' x'
  have e1 : (hi + 1) * B = hi * B + B := by rw [Int.add_mul, Int.one_mul]
  have e2 : (hi - 1) * B = hi * B - B := by rw [Int.sub_mul, Int.one_mul]
  simp only [hi', x']
  split
  · omega
  · split <;> omega

theorem ct_arith (mjd hour minute q r off : Int) (h0 : 0 ≤ mjd) (hh0 : 0 ≤ hour) (hh : hour < 24)
    (hm0 : 0 ≤ minute) (hm : minute < 60) (ho : -31 ≤ off ∧ off ≤ 31) (hoff : off = 2 * q + r)
    (hr : r = 0 ∨ (r = 1 ∧ 0 < off) ∨ (r = -1 ∧ off < 0)) :
    let m0 : Int := minute + r * 30
    let h0 : Int := if 60 ≤ m0 then hour + 1 else if m0 < 0 then hour - 1 else hour
    let m1 : Int := if 60 ≤ m0 then m0 - 60 else if m0 < 0 then 60 + m0 else m0
    let h1 : Int := h0 + q
    let day : Int := if 24 ≤ h1 then mjd + 1 else if h1 < 0 then mjd - 1 else mjd
    let h2 : Int := if 24 ≤ h1 then h1 - 24 else if h1 < 0 then 24 + h1 else h1
    0 ≤ day + 678881 ∧ day ≤ mjd + 1 ∧ 0 ≤ h2 ∧ h2 < 24 ∧ 0 ≤ m1 ∧ m1 < 60 ∧
      day * 1440 + h2 * 60 + m1 = mjd * 1440 + hour * 60 + minute + 30 * off := by
  intro m0 h0 m1 h1 day h2
  -- minutes carry into hours, then hours into days
  have hmin := carry 60 m0 hour (by omega) (by omega)
  have hhour := carry 24 h1 mjd (by omega) (by omega)
  simp only [] at hmin hhour
  omega
end C12

theorem ctInit_reject (mjd hour minute : Nat) (off : Int) (h : ¬ (hour < 24 ∧ minute < 60)) :
    ctInit mjd hour minute off = none := by
  have : (decide (24 ≤ hour) || decide (60 ≤ minute)) = true := by
    simp only [Bool.or_eq_true, decide_eq_true_eq]; omega
  simp [ctInit, this]

theorem ctInit_correct (mjd hour minute : Nat) (off : Int) (hh : hour < 24) (hm : minute < 60)
    (ho : -31 ≤ off ∧ off ≤ 31) :
    ∃ v, ctInit mjd hour minute off = some v ∧
      validDate v.year v.month v.day = true ∧ 0 ≤ v.hour ∧ v.hour < 24 ∧ 0 ≤ v.minute ∧ v.minute < 60 ∧
      v.offsetMin = 30 * off ∧
      (mjdOf v.year v.month v.day) * 1440 + v.hour * 60 + v.minute
        = (mjd : Int) * 1440 + (hour : Int) * 60 + minute + 30 * off := by
  have hg : (decide (24 ≤ hour) || decide (60 ≤ minute)) = false := by
    simp only [Bool.or_eq_false_iff, decide_eq_false_iff_not]; omega
  obtain ⟨hoff, hr⟩ := C12.tdm2 off
  unfold ctInit
  rw [if_neg (by simp [hg])]
  generalize Int.tdiv off 2 = q at *
  generalize Int.tmod off 2 = r at *
  extract_lets m0 h0 m1 h1 day h2 ymd
  obtain ⟨hday, _, hh0, hh1, hm0, hm1, hsum⟩ : 0 ≤ day + 678881 ∧ day ≤ (mjd : Int) + 1 ∧ 0 ≤ h2 ∧ h2 < 24 ∧ 0 ≤ m1 ∧
      m1 < 60 ∧ day * 1440 + h2 * 60 + m1 = (mjd : Int) * 1440 + (hour : Int) * 60 + minute + 30 * off :=
    C12.ct_arith mjd hour minute q r off (by omega) (by omega) (by omega) (by omega) (by omega) ho hoff hr
  have C := civilFromDays_correct (day + 678881) hday
  refine ⟨_, rfl, C.1, hh0, hh1, hm0, hm1, Int.mul_comm _ _, ?_⟩
  have e : mjdOf ymd.1 ymd.2.1 ymd.2.2 = day :=
    C.2.trans (Int.add_sub_cancel day 678881)
  show mjdOf ymd.1 ymd.2.1 ymd.2.2 * 1440 + h2 * 60 + m1 = _
  rw [e]; exact hsum
end RDS

#print axioms RDS.civilFromDays_correct
