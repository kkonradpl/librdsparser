import RdsModel
import RdsSpec.Monitors
/-!
# RdsProofs.Frame — equations of the model's setters and of `step`

Lemmas that belong next to the definitions of RdsModel/Basic, Buffer, Text and Step, so that proofs rewrite with them
and do not unfold: `List.getD` against `set` and `replicate`; get/set equations of `Scalars`, `Settings`, `State.setRt`;
`bufUpdate`, `setField` and `addAf` case by case; the erasures `State.noBuf` … `State.noData`, in which "this function
writes only that part of the state" is one equation; `step` by the kind of call; `run` over appended op lists.
-/
namespace RDS

theorem getD_lt {α} {d : α} (l : List α) (i : Nat) (h : i < l.length) : l.getD i d = l[i] := by
  rw [List.getD_eq_getElem?_getD, List.getElem?_eq_getElem h]; rfl

theorem getD_ge {α} {d : α} {l : List α} {i : Nat} (h : l.length ≤ i) : l.getD i d = d := by
  rw [List.getD_eq_getElem?_getD, List.getElem?_eq_none h]; rfl

theorem getD_any {α} (l : List α) (i : Nat) (h : i < l.length) (d d' : α) : l.getD i d = l.getD i d' :=
  (getD_lt l i h).trans (getD_lt l i h).symm

theorem getD_set_self {α} (l : List α) (i : Nat) (a d : α) (h : i < l.length) : (l.set i a).getD i d = a := by
  simp [List.getD_eq_getElem?_getD, h]

theorem getD_set_ne {α} (l : List α) (i j : Nat) (a d : α) (h : i ≠ j) : (l.set i a).getD j d = l.getD j d := by
  simp [List.getD_eq_getElem?_getD, h]

theorem getD_replicate_lt {α} (n v : Nat) (a d : α) (h : v < n) : (List.replicate n a).getD v d = a := by
  simp [List.getD_eq_getElem?_getD, h]

theorem getD_replicate_same {α} (n v : Nat) (a : α) : (List.replicate n a).getD v a = a := by
  simp only [List.getD_eq_getElem?_getD, List.getElem?_replicate]
  split <;> rfl

theorem Text.cleared_eq_replicate (t : Text) : t.cleared = List.replicate t.length blank :=
  List.map_const' ..

theorem set_getD_self {α} (l : List α) (i : Nat) (d : α) : l.set i (l.getD i d) = l := by
  rcases Nat.lt_or_ge i l.length with h | h
  · rw [getD_lt l i h]; exact List.set_getElem_self h
  · exact List.set_eq_of_length_le h

theorem _root_.List.snoc_ind {α} {P : List α → Prop} (nil : P [])
    (snoc : ∀ l a, P l → P (l ++ [a])) : ∀ l, P l := by
  intro l
  rw [← List.reverse_reverse l]
  induction l.reverse with
  | nil => exact nil
  | cons a t ih => rw [List.reverse_cons]; exact snoc _ _ ih

theorem afValid_lt {v : Nat} (h : afValid v = true) : v < afBits := by
  simp [afValid, afBits] at *; omega

@[simp] theorem Scalars.get_put_same (x : Scalars) (f : Fld) (v : Int) : (x.put f v).get f = v := by
  cases f <;> rfl

theorem Scalars.get_put_ne {x : Scalars} {f f' : Fld} {v : Int} (h : f' ≠ f) :
    (x.put f v).get f' = x.get f' := by
  cases f <;> cases f' <;> first | rfl | exact absurd rfl h

@[simp] theorem Scalars.put_af (x : Scalars) (f : Fld) (v : Int) : (x.put f v).af = x.af := by
  cases f <;> rfl

@[simp] theorem Scalars.get_setAf (x : Scalars) (a : List Bool) (f : Fld) :
    ({ x with af := a } : Scalars).get f = x.get f := by
  cases f <;> rfl

theorem bufUpdate_normal (u t v : Int) : bufUpdate false u t v = if u = v then (u, v, false) else (v, t, true) := by
  simp [bufUpdate]

@[simp] theorem bufUpdate_fst_normal (u t v : Int) : (bufUpdate false u t v).1 = v := by
  rw [bufUpdate_normal]
  split
  · next h => exact h
  · rfl

theorem bufUpdate_fst (ext : Bool) (u t v : Int) :
    (bufUpdate ext u t v).1 = u ∨ (bufUpdate ext u t v).1 = v := by
  unfold bufUpdate
  split
  · left; rfl
  · right; rfl

theorem bufUpdate_changed_iff (ext : Bool) (u t v : Int) :
    (bufUpdate ext u t v).2.2 = true ↔ (bufUpdate ext u t v).1 ≠ u := by
  unfold bufUpdate
  split
  · simp
  · next h => exact ⟨fun _ (e : v = u) => h (by simp [e]), fun _ => rfl⟩

/-! ## frames: erase and compare

Which part of the state a setter or handler can write is ONE equation per function: erase that part from the
result and from the start state and the two are equal. A field outside the part is a `congrArg` of the equation
(`(congrArg State.set (addAf_noBuf s v) :)`; the erasures unfold by themselves, so its check never looks into the
function), and frames compose by `Eq.trans` and by erasing more on both sides. -/

abbrev State.noBuf (s : State) : State := { s with used := .cleared, temp := .cleared }
abbrev State.noPs (s : State) : State := { s with ps := [] }
abbrev State.noTxt (s : State) : State := { s with ps := [], rt0 := [], rt1 := [], ptyn := [] }
abbrev State.noLast (s : State) : State := { s with lastRt := -1 }
/-- erase all a group handler may write; settings, observers, user data and terminators remain -/
abbrev State.noData (s : State) : State := s.noBuf.noTxt.noLast

section setField
variable (s : State) (f : Fld) (v : Int)
@[simp] theorem setField_set : (setField s f v).1.set = s.set := rfl
@[simp] theorem setField_ps : (setField s f v).1.ps = s.ps := rfl
@[simp] theorem setField_rt0 : (setField s f v).1.rt0 = s.rt0 := rfl
@[simp] theorem setField_rt1 : (setField s f v).1.rt1 = s.rt1 := rfl
@[simp] theorem setField_ptyn : (setField s f v).1.ptyn = s.ptyn := rfl
@[simp] theorem setField_termPs : (setField s f v).1.termPs = s.termPs := rfl
@[simp] theorem setField_termRt0 : (setField s f v).1.termRt0 = s.termRt0 := rfl
@[simp] theorem setField_termRt1 : (setField s f v).1.termRt1 = s.termRt1 := rfl
@[simp] theorem setField_termPtyn : (setField s f v).1.termPtyn = s.termPtyn := rfl
@[simp] theorem setField_lastRt : (setField s f v).1.lastRt = s.lastRt := rfl
@[simp] theorem setField_cbs : (setField s f v).1.cbs = s.cbs := rfl
@[simp] theorem setField_ud : (setField s f v).1.ud = s.ud := rfl
@[simp] theorem setField_used_af : (setField s f v).1.used.af = s.used.af := by simp [setField]
@[simp] theorem setField_temp_af : (setField s f v).1.temp.af = s.temp.af := by simp [setField]
@[simp] theorem setField_rt (fl : Nat) : (setField s f v).1.rt fl = s.rt fl := rfl
@[simp] theorem setField_registered (c : Cb) : (setField s f v).1.registered c = s.registered c := rfl

theorem setField_used_get :
    (setField s f v).1.used.get f = (bufUpdate s.set.ext (s.used.get f) (s.temp.get f) v).1 := by
  simp [setField]
theorem setField_temp_get :
    (setField s f v).1.temp.get f = (bufUpdate s.set.ext (s.used.get f) (s.temp.get f) v).2.1 := by
  simp [setField]
theorem setField_used_get_ne (f' : Fld) (h : f' ≠ f) : (setField s f v).1.used.get f' = s.used.get f' := by
  simp [setField, Scalars.get_put_ne h]
theorem setField_temp_get_ne (f' : Fld) (h : f' ≠ f) : (setField s f v).1.temp.get f' = s.temp.get f' := by
  simp [setField, Scalars.get_put_ne h]
theorem setField_used_get_normal (f' : Fld) (hext : s.set.ext = false) :
    (setField s f v).1.used.get f' = if f' = f then v else s.used.get f' := by
  split
  · rename_i h
    rw [h, setField_used_get, hext, bufUpdate_fst_normal]
  · exact setField_used_get_ne s f v f' ‹_›
theorem setField_noBuf : (setField s f v).1.noBuf = s.noBuf := rfl

theorem Fld.ev_cb : f.ev.cb = f.cb := by cases f <;> rfl

theorem setField_snd :
    (setField s f v).2 =
      if (bufUpdate s.set.ext (s.used.get f) (s.temp.get f) v).2.2 then emit (setField s f v).1 f.ev.cb f.ev
      else [] := by
  rw [Fld.ev_cb]; rfl
end setField

section addAf
variable (s : State) (v : Nat)

theorem addAf_known (h1 : afGet s.used.af v = true) : addAf s v = (s, []) := by
  unfold addAf; rw [if_pos h1]

theorem addAf_candidate (h1 : ¬ afGet s.used.af v = true) (h2 : (s.set.ext && !afGet s.temp.af v) = true) :
    addAf s v = ({ s with temp := { s.temp with af := (afSet s.temp.af v).1 } }, []) := by
  unfold addAf; rw [if_neg h1, if_pos h2]

theorem addAf_listed (h1 : ¬ afGet s.used.af v = true) (h2 : ¬ (s.set.ext && !afGet s.temp.af v) = true) :
    addAf s v = ({ s with used := { s.used with af := (afSet s.used.af v).1 } },
      if (afSet s.used.af v).2 then
        emit { s with used := { s.used with af := (afSet s.used.af v).1 } } .af (.af (87500 + v * 100))
      else []) := by
  unfold addAf; rw [if_neg h1, if_neg h2]

theorem addAf_invalid (h : afValid v = false) : (addAf s v).1 = s := by
  simp only [addAf, afGet, afSet, h, Bool.false_and, Bool.not_false, Bool.and_true]
  cases s.set.ext <;> simp

theorem addAf_valid_af (h : afValid v = true) :
    (addAf s v).1.used.af =
      (if s.used.af.getD v false || (s.set.ext && !s.temp.af.getD v false) then s.used.af
       else s.used.af.set v true) ∧
    (addAf s v).1.temp.af =
      (if s.used.af.getD v false || !(s.set.ext && !s.temp.af.getD v false) then s.temp.af
       else s.temp.af.set v true) := by
  simp only [addAf, afGet, afSet, h, Bool.true_and, if_true]
  cases hu : s.used.af.getD v false <;> cases he : s.set.ext <;>
    cases ht : s.temp.af.getD v false <;> simp

theorem addAf_keeps (w : Nat) (h : s.used.af.getD w false = true) : (addAf s v).1.used.af.getD w false = true := by
  cases hv : afValid v with
  | false => rw [addAf_invalid s v hv]; exact h
  | true =>
    rw [(addAf_valid_af s v hv).1]
    split
    · exact h
    · by_cases hvw : v = w
      · subst hvw
        exact getD_set_self _ _ _ _ (Nat.lt_of_not_le fun hl => by rw [getD_ge hl] at h; cases h)
      · rw [getD_set_ne _ _ _ _ _ hvw]; exact h

theorem addAf_fst : (addAf s v).1 =
    if afGet s.used.af v then s
    else if s.set.ext && !afGet s.temp.af v then { s with temp := { s.temp with af := (afSet s.temp.af v).1 } }
    else { s with used := { s.used with af := (afSet s.used.af v).1 } } := by
  unfold addAf
  simp only [apply_ite Prod.fst]

theorem addAf_af_length : (addAf s v).1.used.af.length = s.used.af.length := by
  cases hv : afValid v
  · rw [addAf_invalid s v hv]
  · rw [(addAf_valid_af s v hv).1]; split <;> simp

theorem addAf_noBuf : (addAf s v).1.noBuf = s.noBuf := by
  rw [addAf_fst]; split; · rfl
  split <;> rfl

@[simp] theorem addAf_set : (addAf s v).1.set = s.set := (congrArg State.set (addAf_noBuf s v) :)
@[simp] theorem addAf_ps : (addAf s v).1.ps = s.ps := (congrArg State.ps (addAf_noBuf s v) :)
@[simp] theorem addAf_rt0 : (addAf s v).1.rt0 = s.rt0 := (congrArg State.rt0 (addAf_noBuf s v) :)
@[simp] theorem addAf_rt1 : (addAf s v).1.rt1 = s.rt1 := (congrArg State.rt1 (addAf_noBuf s v) :)
@[simp] theorem addAf_ptyn : (addAf s v).1.ptyn = s.ptyn := (congrArg State.ptyn (addAf_noBuf s v) :)
@[simp] theorem addAf_lastRt : (addAf s v).1.lastRt = s.lastRt := (congrArg State.lastRt (addAf_noBuf s v) :)
@[simp] theorem addAf_cbs : (addAf s v).1.cbs = s.cbs := (congrArg State.cbs (addAf_noBuf s v) :)
@[simp] theorem addAf_ud : (addAf s v).1.ud = s.ud := (congrArg State.ud (addAf_noBuf s v) :)
@[simp] theorem addAf_used_get (f : Fld) : (addAf s v).1.used.get f = s.used.get f := by
  rw [addAf_fst]; split; · rfl
  split
  · rfl
  · exact Scalars.get_setAf ..
@[simp] theorem addAf_temp_get (f : Fld) : (addAf s v).1.temp.get f = s.temp.get f := by
  rw [addAf_fst]; split; · rfl
  split
  · exact Scalars.get_setAf ..
  · rfl
end addAf

section settings
variable (x : Settings)
theorem Settings.init_corr (t : TextId) (k : BlockType) : Settings.init.corr t k = 0 := by
  cases t <;> cases k <;> rfl
theorem Settings.init_prog (t : TextId) : Settings.init.prog t = false := by cases t <;> rfl

theorem Settings.setCorr_corr (t' : TextId) (k' : BlockType) (v : Nat) (t : TextId) (k : BlockType) :
    (x.setCorr t' k' v).corr t k = if t' = t ∧ k' = k then min v 2 else x.corr t k := by
  cases t' <;> cases k' <;> cases t <;> cases k <;> rfl
theorem Settings.setCorr_prog (t' : TextId) (k' : BlockType) (v : Nat) (t : TextId) :
    (x.setCorr t' k' v).prog t = x.prog t := by
  cases t' <;> cases k' <;> cases t <;> rfl
theorem Settings.setCorr_ext (t : TextId) (k : BlockType) (v : Nat) : (x.setCorr t k v).ext = x.ext := by
  cases t <;> cases k <;> rfl
theorem Settings.setProg_corr (t' : TextId) (v : Bool) (t : TextId) (k : BlockType) :
    (x.setProg t' v).corr t k = x.corr t k := by
  cases t' <;> cases t <;> cases k <;> rfl
theorem Settings.setProg_prog (t' : TextId) (v : Bool) (t : TextId) :
    (x.setProg t' v).prog t = if t' = t then v else x.prog t := by
  cases t' <;> cases t <;> rfl
theorem Settings.setProg_ext (t : TextId) (v : Bool) : (x.setProg t v).ext = x.ext := by cases t <;> rfl
theorem Settings.setExt_corr (v : Bool) (t : TextId) (k : BlockType) :
    ({ x with ext := v } : Settings).corr t k = x.corr t k := by
  cases t <;> cases k <;> rfl
theorem Settings.setExt_prog (v : Bool) (t : TextId) : ({ x with ext := v } : Settings).prog t = x.prog t := by
  cases t <;> rfl
end settings

section setRt
variable (s : State) (fl : Nat) (t : Text)
@[simp] theorem setRt_used : (s.setRt fl t).used = s.used := by unfold State.setRt; split <;> rfl
@[simp] theorem setRt_temp : (s.setRt fl t).temp = s.temp := by unfold State.setRt; split <;> rfl
@[simp] theorem setRt_set : (s.setRt fl t).set = s.set := by unfold State.setRt; split <;> rfl
@[simp] theorem setRt_ps : (s.setRt fl t).ps = s.ps := by unfold State.setRt; split <;> rfl
@[simp] theorem setRt_ptyn : (s.setRt fl t).ptyn = s.ptyn := by unfold State.setRt; split <;> rfl
@[simp] theorem setRt_cbs : (s.setRt fl t).cbs = s.cbs := by unfold State.setRt; split <;> rfl
@[simp] theorem setRt_ud : (s.setRt fl t).ud = s.ud := by unfold State.setRt; split <;> rfl
@[simp] theorem setRt_lastRt : (s.setRt fl t).lastRt = s.lastRt := by unfold State.setRt; split <;> rfl
@[simp] theorem setRt_registered (c : Cb) : (s.setRt fl t).registered c = s.registered c := by
  unfold State.setRt; split <;> rfl
theorem setRt_rt0 : (s.setRt fl t).rt0 = if fl = 0 then t else s.rt0 := by
  unfold State.setRt; split <;> rfl
theorem setRt_rt1 : (s.setRt fl t).rt1 = if fl = 0 then s.rt1 else t := by
  unfold State.setRt; split <;> rfl
@[simp] theorem setRt_rt_same : (s.setRt fl t).rt fl = t := by
  unfold State.setRt State.rt; split <;> simp [*]
theorem setRt_self : s.setRt fl (s.rt fl) = s := by
  unfold State.setRt State.rt
  split <;> rfl
end setRt

/-- the two flags that occur (`g.b / 16 % 2`) address different buffers -/
theorem setRt_rt_ne (s : State) (f f' : Nat) (t : Text) (hf : f < 2) (hf' : f' < 2) (h : f ≠ f') :
    (s.setRt f t).rt f' = s.rt f' := by
  unfold State.rt
  split
  · rw [setRt_rt0, if_neg (by omega)]
  · rw [setRt_rt1, if_pos (by omega)]

theorem setRt_noTxt (s : State) (fl : Nat) (t : Text) : (s.setRt fl t).noTxt = s.noTxt := by
  unfold State.setRt; split <;> rfl

theorem parserUpdate_reject_info (cfg set t id w eb ex pos) (h : set.corr id .info < eb) :
    parserUpdate cfg set t id w eb ex pos = (t, false) := by
  have : ¬ (eb ≤ set.corr id .info) := by omega
  simp [parserUpdate, this]

theorem parserUpdate_reject_data (cfg set t id w eb ex pos) (h : set.corr id .data < ex) :
    parserUpdate cfg set t id w eb ex pos = (t, false) := by
  have : ¬ (ex ≤ set.corr id .data) := by omega
  simp [parserUpdate, this]

theorem calcError_le {ei ed : Nat} (hi : ei ≤ 2) (hd : ed ≤ 2) : calcError ei ed ≤ 9 := by
  unfold calcError; split <;> omega

/-! ## `step` by the kind of call

A call delivers a group (then it is `process` of that group), or it is `init`/`clear`, or it writes at most the
settings, the registrations and the user data, each as a function of what was there. -/

theorem Op.kind_cases (op : Op) :
    op = .init ∨ op = .clear ∨ (∃ g, op.group? = some g) ∨
    (op.group? = none ∧ op ≠ .init ∧ op ≠ .clear) := by
  cases hg : op.group? with
  | some g => exact Or.inr (Or.inr (Or.inl ⟨g, rfl⟩))
  | none =>
    by_cases h1 : op = .init
    · exact Or.inl h1
    · by_cases h2 : op = .clear
      · exact Or.inr (Or.inl h2)
      · exact Or.inr (Or.inr (Or.inr ⟨rfl, h1, h2⟩))

theorem Op.ne_reset_of_group {op : Op} {g : Group} (hg : op.group? = some g) : op ≠ .init ∧ op ≠ .clear := by
  constructor <;> intro h <;> subst h <;> cases hg

theorem step_group (cfg : Cfg) (s : State) {op : Op} {g : Group} (hg : op.group? = some g) :
    step cfg s op = ((process cfg s g).1, (process cfg s g).2, true) := by
  cases op with
  | parse g' => cases hg; rfl
  | parseString o =>
    cases o with
    | none => cases hg
    | some b => have hg' : utilsConvert b = some g := hg; simp only [step, hg']
  | _ => cases hg

theorem step_nogroup_evs (cfg : Cfg) (s : State) {op : Op} (hg : op.group? = none) : (step cfg s op).2.1 = [] := by
  cases op with
  | parse g => cases hg
  | parseString o =>
    cases o with
    | none => rfl
    | some b => have hg' : utilsConvert b = none := hg; simp only [step, hg']
  | _ => rfl

theorem step_nogroup_ret (cfg cfg' : Cfg) (s s' : State) {op : Op} (hg : op.group? = none) :
    (step cfg s op).2.2 = (step cfg' s' op).2.2 := by
  cases op with
  | parse g => cases hg
  | parseString o =>
    cases o with
    | none => rfl
    | some b => have hg' : utilsConvert b = none := hg; simp only [step, hg']
  | _ => rfl

def Op.onSet : Op → Settings → Settings
  | .setExt v, x => { x with ext := v }
  | .setCorr t k v, x => x.setCorr t k v
  | .setProg t v, x => x.setProg t v
  | _, x => x

def Op.onCbs : Op → List Bool → List Bool
  | .register c on, l => l.set c.idx on
  | _, l => l

def Op.onUd : Op → Nat → Nat
  | .userData n, _ => n
  | _, u => u

theorem Op.onCbs_length (op : Op) (l : List Bool) : (op.onCbs l).length = l.length := by
  cases op <;> first | rfl | exact List.length_set ..

theorem step_quiet (cfg : Cfg) (s : State) {op : Op} (hg : op.group? = none) (h1 : op ≠ .init) (h2 : op ≠ .clear) :
    (step cfg s op).1 = { s with set := op.onSet s.set, cbs := op.onCbs s.cbs, ud := op.onUd s.ud } := by
  cases op with
  | init => exact absurd rfl h1
  | clear => exact absurd rfl h2
  | parse g => cases hg
  | parseString o =>
    cases o with
    | none => rfl
    | some b => have hg' : utilsConvert b = none := hg; simp only [step, hg']; rfl
  | _ => rfl

theorem runFrom_cons (cfg : Cfg) (s : State) (op : Op) (ops : List Op) :
    runFrom cfg s (op :: ops) = runFrom cfg (step cfg s op).1 ops := rfl

theorem runFrom_append (cfg : Cfg) (s : State) (ops ops' : List Op) :
    runFrom cfg s (ops ++ ops') = runFrom cfg (runFrom cfg s ops) ops' := by
  simp only [runFrom, List.foldl_append]

theorem run_append (cfg : Cfg) (ops ops' : List Op) : run cfg (ops ++ ops') = runFrom cfg (run cfg ops) ops' :=
  runFrom_append cfg _ ops ops'

theorem run_snoc (cfg : Cfg) (ops : List Op) (op : Op) : run cfg (ops ++ [op]) = (step cfg (run cfg ops) op).1 :=
  run_append cfg ops [op]

theorem runFrom_induct (cfg : Cfg) {P : State → Prop} {Q : Op → Prop}
    (hstep : ∀ s op, Q op → P s → P (step cfg s op).1) :
    ∀ (ops : List Op) (s : State), (∀ op ∈ ops, Q op) → P s → P (runFrom cfg s ops) := by
  intro ops
  induction ops with
  | nil => intro s _ h; exact h
  | cons op ops ih =>
    intro s hq h
    exact ih _ (fun o ho => hq o (List.mem_cons_of_mem _ ho)) (hstep s op (hq op (List.mem_cons_self ..)) h)

end RDS
