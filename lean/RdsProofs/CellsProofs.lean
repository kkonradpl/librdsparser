import RdsSpec.Statements
import RdsProofs.CellsDispatch
/-!
# RdsProofs.CellsProofs — one call: the four texts are `expectedText` (`chkCells_ok`, which carries C02 / C06 / C08),
cell by cell (`process_getD`), and C07 (`chkC07_ok`); the capacities as an invariant (`Lens`)
-/
namespace RDS

theorem step_text_none {cfg : Cfg} {s : State} {op : Op} (hi : op ≠ .init) (hc : op ≠ .clear)
    (hg : op.group? = none) (t : Nat) : (step cfg s op).1.text t = s.text t := by
  rw [step_quiet cfg s hg hi hc]
  match t with
  | 0 | 1 | 2 | _ + 3 => rfl

theorem all_range4 (p : Nat → Bool) : (List.range 4).all p = true ↔ ∀ t, t < 4 → p t = true := by
  simp [List.all_eq_true, List.mem_range]

/-! ## the shape of the per-call text predicates

`chkCells`, `chkC02`, `chkC06`, `chkC07conv`, `chkC08` are `perCall r.op grp quiet` (the `_eq_perCall` lemmas;
`chkC07` is `exceptReset r.op body`), so `perCall_iff` and `perCall_mono` apply to each of them. -/

/-- nothing is asked of `init` / `clear` -/
def exceptReset (op : Op) (body : Bool) : Bool :=
  match op with
  | .init | .clear => true
  | _ => body

/-- nothing is asked of `init` / `clear`; a call that delivers a group must pass `grp`, any other call `quiet` -/
def perCall (op : Op) (grp : Group → Bool) (quiet : Bool) : Bool :=
  exceptReset op (match op.group? with | some g => grp g | none => quiet)

theorem exceptReset_iff (op : Op) (body : Bool) :
    exceptReset op body = true ↔ (op ≠ .init → op ≠ .clear → body = true) := by
  cases op
  case init => exact ⟨fun _ h => absurd rfl h, fun _ => rfl⟩
  case clear => exact ⟨fun _ _ h => absurd rfl h, fun _ => rfl⟩
  all_goals exact ⟨fun h _ _ => h, fun h => h nofun nofun⟩

theorem perCall_iff (op : Op) (grp : Group → Bool) (quiet : Bool) :
    perCall op grp quiet = true ↔
      (∀ g, op.group? = some g → grp g = true) ∧ (op.group? = none → op ≠ .init → op ≠ .clear → quiet = true) := by
  unfold perCall
  rw [exceptReset_iff]
  cases hg : op.group? with
  | none => exact ⟨fun h => ⟨nofun, fun _ => h⟩, fun h => h.2 rfl⟩
  | some g =>
    have hi : op ≠ .init := fun e => by subst e; cases hg
    have hc : op ≠ .clear := fun e => by subst e; cases hg
    exact ⟨fun h => ⟨fun g' e => Option.some.inj e ▸ h hi hc, nofun⟩, fun h _ _ => h.1 g rfl⟩

theorem perCall_mono {op : Op} {grp grp' : Group → Bool} {quiet quiet' : Bool} (h : perCall op grp quiet = true)
    (hg : ∀ g, op.group? = some g → grp g = true → grp' g = true) (hq : quiet = true → quiet' = true) :
    perCall op grp' quiet' = true := by
  rw [perCall_iff] at h ⊢
  exact ⟨fun g e => hg g e (h.1 g e), fun e hi hc => hq (h.2 e hi hc)⟩

section
variable (cfg : Cfg) (m : Mon) (r : StepRec)

theorem chkCells_eq_perCall : chkCells cfg m r = perCall r.op
    (fun g => (List.range 4).all fun t => (r.after.text t).cells == expectedText cfg m r.before g t)
    ((List.range 4).all fun t => (r.after.text t).cells == (r.before.text t).cells) := rfl

theorem chkC02_eq_perCall : chkC02 cfg m r = perCall r.op (fun g => cellsBy m r g (relC02 cfg g.eb))
    ((List.range 4).all fun t => (r.after.text t).cells == (r.before.text t).cells) := rfl

theorem chkC06_eq_perCall : chkC06 cfg m r =
    perCall r.op (fun g => rtNoisy m g || cellsBy m r g (relC06 cfg r.before.set g.eb)) true := rfl

theorem chkC07conv_eq_perCall : chkC07conv cfg m r =
    perCall r.op (fun g => cellsBy m r g (relC07conv cfg r.before.set g.eb)) true := rfl

theorem chkC08_eq_perCall : chkC08 m r = perCall r.op
    (fun g =>
      if rtNoisy m g then r.after.rt0.cells == r.before.rt0.cells && r.after.rt1.cells == r.before.rt1.cells
      else (List.range 2).all fun f =>
        let old := if switchDiscard m r.before g && f = g.b / 16 % 2 then (r.before.text (1 + f)).cells.cleared
          else (r.before.text (1 + f)).cells
        (r.after.text (1 + f)).cells.length == old.length &&
        (List.range old.length).all fun i =>
          (((addressed g).filter (fun a => a.1 = 1 + f)).find? (fun a => a.2.1 = i)).isSome ||
            (r.after.text (1 + f)).cells.getD i blank == old.getD i blank)
    (r.after.rt0.cells == r.before.rt0.cells && r.after.rt1.cells == r.before.rt1.cells) := rfl
end

/-! ## the capacities are invariant, whatever the tables -/

def Lens (s : State) : Prop :=
  s.ps.length = capPs ∧ s.rt0.length = capRt ∧ s.rt1.length = capRt ∧ s.ptyn.length = capPtyn

theorem Lens.text {s : State} (h : Lens s) (t : Nat) : (s.text t).length = capOf t := by
  obtain ⟨a, b, c, d⟩ := h
  match t with
  | 0 | 1 | 2 | _ + 3 => assumption

theorem expText_length (cfg : Cfg) (s : State) (g : Group) (t : Nat) :
    (s.expText cfg g t).length = (s.text t).length := by
  unfold State.expText
  rw [expCells_length]
  split
  · exact cleared_length _
  · rfl

theorem lens_process (cfg : Cfg) (s : State) (g : Group) (h : Lens s) : Lens (process cfg s g).1 := by
  obtain ⟨a, b, c, d⟩ := h
  have len : ∀ t, t < 4 → ((process cfg s g).1.text t).length = (s.text t).length := by
    intro t ht
    rw [process_expText cfg s g t ht, expText_length]
  exact ⟨(len 0 (by omega)).trans a, (len 1 (by omega)).trans b, (len 2 (by omega)).trans c,
    (len 3 (by omega)).trans d⟩

theorem lens_init : Lens initState :=
  ⟨List.length_replicate, List.length_replicate, List.length_replicate, List.length_replicate⟩

theorem lens_step (cfg : Cfg) (s : State) (op : Op) (h : Lens s) : Lens (step cfg s op).1 := by
  rcases op.kind_cases with rfl | rfl | ⟨g, hg⟩ | ⟨hg, hi, hc⟩
  · exact lens_init
  · obtain ⟨a, b, c, d⟩ := h
    exact ⟨(cleared_length _).trans a, (cleared_length _).trans b, (cleared_length _).trans c,
      (cleared_length _).trans d⟩
  · rw [step_group _ _ hg]; exact lens_process cfg s g h
  · rw [step_quiet cfg s hg hi hc]; exact h

theorem lens_run (cfg : Cfg) (ops : List Op) : Lens (run cfg ops) :=
  runFrom_induct cfg (Q := fun _ => True) (fun s op _ => lens_step cfg s op) ops initState (fun _ _ => trivial)
    lens_init

/-- C02 + C06 + C08 for one call: all four texts after the call are the expected ones -/
theorem chkCells_ok (cfg : Cfg) (m : Mon) (s : State) (op : Op) (hf : m.lastFlag = s.lastRt) :
    chkCells cfg m (recOf cfg s op) = true := by
  rw [chkCells_eq_perCall]
  refine (perCall_iff op _ _).mpr ⟨fun g hg => ?_, fun hg hi hc => ?_⟩ <;> rw [all_range4] <;> intro t ht
  · show (((Obs.ofState (step cfg s op).1).text t).cells == _) = true
    rw [obs_text_cells, step_group _ _ hg, process_expText cfg s g t ht]
    exact beq_iff_eq.mpr (expectedText_eq_expText cfg m s g hf t).symm
  · show (((Obs.ofState (step cfg s op).1).text t).cells == ((Obs.ofState s).text t).cells) = true
    rw [obs_text_cells, obs_text_cells, step_text_none hi hc hg]
    exact beq_self_eq_true _

/-- `expCells_getD` for EVERY index: outside the text both sides read `blank` -/
theorem expCells_getD_all {cfg : Cfg} {set : Settings} {tid : TextId} {eb : Nat} {old : Text}
    {addr : List (Nat × Nat × Nat × Nat)} (hr : ∀ a ∈ addr, a.2.1 < old.length) (i : Nat) :
    (expCells cfg set tid eb old addr).getD i blank =
      match addr.find? (fun a => a.2.1 = i) with
      | some (_, _, b, ex) =>
        cellSpec cfg (set.corr tid .info) (set.corr tid .data) (set.prog tid) (old.getD i blank) b eb ex
      | none => old.getD i blank := by
  by_cases hi : i < old.length
  · exact expCells_getD hi
  · rw [getD_ge (by rw [expCells_length]; omega), getD_ge (by omega)]
    cases hf : addr.find? (fun a => a.2.1 = i) with
    | none => rfl
    | some a =>
      have h1 := List.find?_some hf
      have h2 := hr a (List.mem_of_find?_eq_some hf)
      simp only [decide_eq_true_eq] at h1
      omega

/-- one cell through one delivered group, for every index `i` (outside the text both sides read `blank`): `step_cell`
and the history theorems of C07 and C16 are read off it -/
theorem process_getD (cfg : Cfg) (s : State) (g : Group) (hl : Lens s) (t : Nat) (ht : t < 4) (i : Nat) :
    ((process cfg s g).1.text t).getD i blank =
      match (if g.type = 2 && g2noisy s g then [] else (addressed g).filter (fun a => a.1 = t)).find?
          (fun a => a.2.1 = i) with
      | some (_, _, b, ex) =>
        cellSpec cfg (s.set.corr (textIdOf t) .info) (s.set.corr (textIdOf t) .data) (s.set.prog (textIdOf t))
          ((if g.type = 2 && g2clr s g && t = 1 + g.b / 16 % 2 then (s.text t).cleared else s.text t).getD i blank)
          b g.eb ex
      | none => (if g.type = 2 && g2clr s g && t = 1 + g.b / 16 % 2 then (s.text t).cleared else s.text t).getD i
          blank := by
  rw [process_expText cfg s g t ht]
  refine expCells_getD_all (fun a ha => ?_) i
  have hlen : ∀ c : Bool, (if c = true then (s.text t).cleared else s.text t).length = capOf t := by
    intro c; cases c <;> simp [hl.text t]
  rw [hlen]
  split at ha
  · cases ha
  · rw [List.mem_filter] at ha
    have := (C05_addressed_in_range g a ha.1).2
    rw [← of_decide_eq_true ha.2]; exact this

/-- `op` resets text buffer `t`: `init`, `clear`, or a type-2 group that makes the A/B switch discard buffer `t`
(exactly the exemption of `chkC07`) -/
def ac07_resets (m : Mon) (o : Obs) (t : Nat) (op : Op) : Bool :=
  match op with
  | .init | .clear => true
  | _ =>
    match op.group? with
    | some g => switchDiscard m o g && t = 1 + g.b / 16 % 2
    | none => false

theorem ac07_resets_eq (m : Mon) (o : Obs) (t : Nat) {op : Op} (hi : op ≠ .init) (hc : op ≠ .clear) :
    ac07_resets m o t op =
      match op.group? with
      | some g => switchDiscard m o g && t = 1 + g.b / 16 % 2
      | none => false := by
  cases op <;> first | exact absurd rfl hi | exact absurd rfl hc | rfl

theorem ac07_resets_group {m : Mon} {o : Obs} {t : Nat} {op : Op} {g : Group} (hg : op.group? = some g) :
    ac07_resets m o t op = (switchDiscard m o g && decide (t = 1 + g.b / 16 % 2)) := by
  rw [ac07_resets_eq m o t (Op.ne_reset_of_group hg).1 (Op.ne_reset_of_group hg).2, hg]

theorem step_cell (cfg : Cfg) (m : Mon) (s : State) (op : Op) (hlf : m.lastFlag = s.lastRt) (hl : Lens s)
    (t : Nat) (ht : t < 4) (hnr : ac07_resets m (Obs.ofState s) t op = false) (i : Nat) :
    ((step cfg s op).1.text t).getD i blank = (s.text t).getD i blank ∨
    ∃ g b ex, op.group? = some g ∧ rtNoisy m g = false ∧ (t, i, b, ex) ∈ addressed g ∧
      ((step cfg s op).1.text t).getD i blank =
        cellSpec cfg (s.set.corr (textIdOf t) .info) (s.set.corr (textIdOf t) .data) (s.set.prog (textIdOf t))
          ((s.text t).getD i blank) b g.eb ex := by
  have hi : op ≠ .init := by intro h; subst h; cases hnr
  have hc : op ≠ .clear := by intro h; subst h; cases hnr
  cases hg : op.group? with
  | none => left; rw [step_text_none hi hc hg]
  | some g =>
    rw [ac07_resets_group hg, switchDiscard_g2clr g hlf] at hnr
    rw [step_group _ _ hg, process_getD cfg s g hl t ht i, hnr, ← rtNoisy_g2noisy g hlf]
    simp only [Bool.false_eq_true, if_false]
    cases hn : rtNoisy m g with
    | true => left; rfl
    | false =>
      simp only [Bool.false_eq_true, if_false]
      cases hf : ((addressed g).filter (fun a => a.1 = t)).find? (fun a => a.2.1 = i) with
      | none => left; rfl
      | some a =>
        obtain ⟨t', i', b, ex⟩ := a
        have h1 := List.find?_some hf
        have h2 := List.mem_filter.mp (List.mem_of_find?_eq_some hf)
        simp only [decide_eq_true_eq] at h1 h2
        obtain ⟨hmem, rfl⟩ := h2
        subst h1
        exact .inr ⟨g, b, ex, rfl, hn, hmem, rfl⟩

/-- C07, character clause, for one addressed cell -/
theorem cellSpec_ch_or (cfg : Cfg) (info data : Nat) (old : Cell) (b eb ed : Nat) :
    (cellSpec cfg info data true old b eb ed).ch = old.ch ∨ recvLevel eb ed ≤ old.lvl := by
  rcases cellSpec_cases cfg info data true old b eb ed with h | ⟨_, _, _, hp, _⟩
  · exact .inl (by rw [h])
  · exact .inr (hp rfl)

/-- C07 for one call -/
theorem chkC07_ok (cfg : Cfg) (m : Mon) (s : State) (op : Op) (hf : m.lastFlag = s.lastRt)
    (hlen : Lens s) :
    chkC07 m (recOf cfg s op) = true := by
  refine (exceptReset_iff op _).mpr fun hi hc => ?_
  rw [all_range4]
  intro t ht
  show (!(s.set.prog (textIdOf t)) ||
    (match op.group? with
      | some g => switchDiscard m (Obs.ofState s) g && decide (t = 1 + g.b / 16 % 2)
      | none => false) || _) = true
  rw [← ac07_resets_eq m _ t hi hc]
  cases hprog : s.set.prog (textIdOf t) with
  | false => rfl
  | true =>
    cases hnr : ac07_resets m (Obs.ofState s) t op with
    | true => rfl
    | false =>
      rw [Bool.not_true, Bool.false_or, Bool.false_or, List.all_eq_true]
      intro i _
      have ha : (recOf cfg s op).after = Obs.ofState (step cfg s op).1 := rfl
      have hb : (recOf cfg s op).before = Obs.ofState s := rfl
      have ho : (recOf cfg s op).op = op := rfl
      rw [ha, hb, ho, obs_text_cells, obs_text_cells]
      rcases step_cell cfg m s op hf hlen t ht hnr i with heq | ⟨g, b, ex, hg, _, hmem, hnew⟩
      · rw [heq]; simp
      · rw [hnew, hprog, Bool.and_eq_true, Bool.or_eq_true]
        refine ⟨decide_eq_true (cellSpec_lvl_le ..), ?_⟩
        rcases cellSpec_ch_or cfg (s.set.corr (textIdOf t) .info) (s.set.corr (textIdOf t) .data)
          ((s.text t).getD i blank) b g.eb ex with h | h
        · left; rw [h]; exact beq_self_eq_true _
        · right
          rw [hg, List.any_eq_true]
          exact ⟨_, hmem, by simp only [beq_self_eq_true, Bool.true_and, decide_eq_true h]⟩

#print axioms updateSingle_cellSpec
#print axioms chkCells_ok
#print axioms chkC07_ok

end RDS
