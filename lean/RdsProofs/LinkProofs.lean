import RdsProofs.LinkGroups
import RdsProofs.C15Proofs
/-!
# RdsProofs.LinkProofs — `Link` is an invariant of `step` / `Mon.step`, and the per-call
predicates C01, C09, C10, C11, C15, C17 follow from it
-/
namespace RDS

theorem cleared_get (f : Fld) : Scalars.cleared.get f = f.unknown := by cases f <;> rfl
theorem cleared_af : Scalars.cleared.af = List.replicate afBits false := rfl
theorem cleared_af_len : Scalars.cleared.af.length = afBits := List.length_replicate

theorem link_fresh (m : Mon) (s : State) (hset : m.set = s.set) (hext : m.ext = s.set.ext)
    (hcbs : m.cbs = s.cbs) (hud : m.ud = s.ud) (hlf : m.lastFlag = s.lastRt)
    (hf : ∀ f, m.fld f = ⟨none, f.unknown⟩) (hc : m.afCount = List.replicate afBits 0)
    (hu : s.used = .cleared) (ht : s.temp = .cleared) : Link m s :=
  { set := hset, ext := hext, cbs := hcbs, ud := hud, lastFlag := hlf
    cntLen := by rw [hc, List.length_replicate]
    cntInvalid := fun v _ => by rw [hc, getD_replicate_same]
    fields := fun _ f => by rw [hu, ht, hf, cleared_get]; exact ⟨rfl, fun _ => rfl, fun _ => rfl⟩
    af := fun _ v hv => by
      rw [hu, ht, hc, cleared_af, getD_replicate_lt _ _ _ _ hv, getD_replicate_lt _ _ _ _ hv]
      cases s.set.ext <;> simp
    quiet := fun _ =>
      ⟨fun f => by rw [hu, ht, hf, cleared_get]; exact ⟨rfl, rfl, rfl, rfl⟩, by rw [hu]; rfl, by rw [ht]; rfl⟩ }

theorem Mon.init_fld (f : Fld) : Mon.init.fld f = ⟨none, f.unknown⟩ := by cases f <;> rfl
theorem Mon.reset_fld (m : Mon) (f : Fld) : m.reset.fld f = ⟨none, f.unknown⟩ := by cases f <;> rfl

theorem link_init : Link Mon.init initState :=
  link_fresh Mon.init initState rfl rfl rfl rfl rfl Mon.init_fld rfl rfl rfl

theorem link_prevGroup {m : Mon} {s : State} (x : Option Group) (h : Link m s) :
    Link { m with prevGroup := x } s :=
  { h with }

/-- A call that delivers nothing and resets nothing writes settings, observers and user data alike on both sides. It
keeps `clean` only if the check mode stays or nothing has been received; in the second case both buffer stages are in
their reset state, which links under either mode. -/
theorem link_quiet {m : Mon} {s : State} (op : Op) (h : Link m s) :
    Link { m with ext := op.onExt m.ext, clean := m.clean && (op.onExt m.ext = m.ext || !m.anyRecv),
                  set := op.onSet m.set, cbs := op.onCbs m.cbs, ud := op.onUd m.ud, prevGroup := none }
      { s with set := op.onSet s.set, cbs := op.onCbs s.cbs, ud := op.onUd s.ud } := by
  have hext : op.onExt m.ext = (op.onSet s.set).ext := by rw [Op.onSet_ext, h.ext]
  have key : (m.clean && (decide (op.onExt m.ext = m.ext) || !m.anyRecv)) = true →
      (∀ f, FInv (op.onSet s.set).ext f.unknown (s.used.get f) (s.temp.get f) (m.fld f)) ∧
        AfLink (op.onSet s.set).ext s.used.af s.temp.af m.afCount := by
    intro hc
    simp only [Bool.and_eq_true, Bool.or_eq_true, decide_eq_true_eq, Bool.not_eq_true'] at hc
    obtain ⟨hcl, hv | hq⟩ := hc
    · rw [← hext, hv, h.ext]; exact ⟨h.fields hcl, h.af hcl⟩
    · obtain ⟨q1, q2, q3⟩ := h.quiet hq
      refine ⟨fun f => ?_, fun w hw => ?_⟩
      · obtain ⟨a, b, c, d⟩ := q1 f
        exact ⟨by rw [a, d], fun _ => by rw [b, c]; rfl, fun _ => d⟩
      · rw [q2, q3, m.afCount_of_not_anyRecv hq, getD_replicate_lt _ _ _ _ hw]
        cases (op.onSet s.set).ext <;> simp
  exact { h with
    set := congrArg op.onSet h.set, ext := hext, cbs := congrArg op.onCbs h.cbs, ud := congrArg op.onUd h.ud
    fields := fun hc => (key hc).1, af := fun hc => (key hc).2 }

theorem linkL_step (cfg : Cfg) (m : Mon) (s : State) (op : Op) (h : LinkL m s) :
    LinkL (m.step cfg op) (step cfg s op).1 := by
  have hl := h.link
  rcases op.kind_cases with rfl | rfl | ⟨g, hg⟩ | ⟨hg, h1, h2⟩
  · exact ⟨link_prevGroup none link_init, cleared_af_len, cleared_af_len⟩
  · exact ⟨link_prevGroup none (link_fresh m.reset (clearState s) hl.set hl.ext hl.cbs hl.ud rfl
      m.reset_fld rfl rfl rfl), cleared_af_len, cleared_af_len⟩
  · rw [step_group cfg s hg, Mon.step_group cfg m hg]
    have hp := linkL_process cfg m s g h
    exact ⟨link_prevGroup (some g) hp.link, hp.usedLen, hp.tempLen⟩
  · rw [step_quiet cfg s hg h1 h2, Mon.step_quiet cfg m hg h1 h2]
    exact ⟨link_quiet op hl, h.usedLen, h.tempLen⟩

theorem linkL_runFrom (cfg : Cfg) (ops : List Op) :
    ∀ (m : Mon) (s : State), LinkL m s → LinkL (ops.foldl (Mon.step cfg) m) (runFrom cfg s ops) := by
  induction ops with
  | nil => intro m s h; exact h
  | cons op ops ih => intro m s h; exact ih _ _ (linkL_step cfg m s op h)

theorem linkL_run (cfg : Cfg) (ops : List Op) : LinkL (monAfter cfg ops) (run cfg ops) :=
  linkL_runFrom cfg ops Mon.init initState ⟨link_init, cleared_af_len, cleared_af_len⟩

theorem link_step (tb : Tabs) (m : Mon) (s : State) (op : Op) (hl : Link m s) (hw : WF tb s) :
    Link (m.step tb.cfg op) (step tb.cfg s op).1 :=
  (linkL_step tb.cfg m s op (linkL_of_WF hl hw)).link

theorem afMatches_of_link {m' : Mon} {s' : State} (h : Link m' s') (hc : m'.clean = true)
    (hlen : s'.used.af.length = afBits) : afMatches m' s'.used.af = true := by
  unfold afMatches
  simp only [Bool.and_eq_true, beq_iff_eq, List.all_eq_true]
  refine ⟨⟨hlen, h.cntLen⟩, ?_⟩
  intro b hb
  obtain ⟨i, hi, rfl⟩ := List.mem_iff_getElem.1 hb
  have hi' : i < afBits := by rwa [List.length_zipWith, hlen, h.cntLen, Nat.min_self] at hi
  have := (h.af hc i hi').1
  rw [getD_lt _ _ (hlen ▸ hi'), getD_lt _ _ (h.cntLen ▸ hi'), ← h.ext] at this
  rw [List.getElem_zipWith]
  exact beq_iff_eq.2 this

/-- C01, C09, C10 and C11 are read off `Link` of the successor state: the getters show `vis` of every abstract
field and the AF bitmap is the thresholded count. C11 also wants the country within the table. -/
theorem chk_of_link {tb : Tabs} {m' : Mon} {s' : State} (r : StepRec) (hr : r.after = Obs.ofState s')
    (h : Link m' s') (hlen : s'.used.af.length = afBits) :
    chkC01 m' r = true ∧ chkC09 m' r = true ∧ chkC10 m' r = true ∧
      (0 ≤ s'.used.country ∧ s'.used.country < tb.countryCount → chkC11 tb m' r = true) := by
  have hsc : r.after.sc = s'.used := by rw [hr]; rfl
  unfold chkC01 chkC09 chkC10 chkC11
  rw [hsc]
  cases hc : m'.clean
  · exact ⟨by simp, by simp, by simp, fun ⟨h0, h1⟩ => by simp [h0, h1]⟩
  · have e := fun f => (h.fields hc f).1
    have e1 : s'.used.pi = m'.pi.vis := e .pi
    have e2 : s'.used.pty = m'.pty.vis := e .pty
    have e3 : s'.used.tp = m'.tp.vis := e .tp
    have e4 : s'.used.ta = m'.ta.vis := e .ta
    have e5 : s'.used.ms = m'.ms.vis := e .ms
    have e6 : s'.used.ecc = m'.ecc.vis := e .ecc
    have e7 : s'.used.country = m'.country.vis := e .country
    have haf := afMatches_of_link h hc hlen
    exact ⟨by simp [e1, e2, e3, e4, e5], by simp [e1, e2, e3, e4, e5, e6, e7, haf], by simp [haf],
      fun ⟨h0, h1⟩ => by simp [← e6, ← e7, h0, h1]⟩

section ok
variable (tb : Tabs) (m : Mon) (s : State) (op : Op) (h : LinkL m s)
include h

theorem chk_ok :
    chkC01 (m.step tb.cfg op) (recOf tb.cfg s op) = true ∧ chkC09 (m.step tb.cfg op) (recOf tb.cfg s op) = true ∧
    chkC10 (m.step tb.cfg op) (recOf tb.cfg s op) = true ∧
    (0 ≤ (step tb.cfg s op).1.used.country ∧ (step tb.cfg s op).1.used.country < tb.countryCount →
      chkC11 tb (m.step tb.cfg op) (recOf tb.cfg s op) = true) :=
  have h' := linkL_step tb.cfg m s op h
  chk_of_link _ rfl h'.link h'.usedLen

theorem chkC01_ok : chkC01 (m.step tb.cfg op) (recOf tb.cfg s op) = true := (chk_ok tb m s op h).1
theorem chkC09_ok : chkC09 (m.step tb.cfg op) (recOf tb.cfg s op) = true := (chk_ok tb m s op h).2.1
theorem chkC10_ok : chkC10 (m.step tb.cfg op) (recOf tb.cfg s op) = true := (chk_ok tb m s op h).2.2.1

/-- `hw'` comes from `wf_step`; it puts the country within the table -/
theorem chkC11_ok (hw' : WF tb (step tb.cfg s op).1) :
    chkC11 tb (m.step tb.cfg op) (recOf tb.cfg s op) = true :=
  (chk_ok tb m s op h).2.2.2 hw'.country
end ok

/-- both sides do the same to the settings -/
theorem step_set_eq (cfg : Cfg) (m : Mon) (s : State) (op : Op) (h : m.set = s.set) :
    (m.step cfg op).set = (step cfg s op).1.set := by
  rcases op.kind_cases with rfl | rfl | ⟨g, hg⟩ | ⟨hg, h1, h2⟩
  · rfl
  · exact h
  · rw [step_group cfg s hg, Mon.step_group cfg m hg]
    exact (Mon.group_set cfg m g).trans (h.trans (process_set cfg s g).symm)
  · rw [step_quiet cfg s hg h1 h2, Mon.step_quiet cfg m hg h1 h2]
    exact congrArg op.onSet h

theorem chkC17_ok (cfg : Cfg) (m : Mon) (s : State) (op : Op) (h : m.set = s.set) :
    chkC17 (m.step cfg op) (recOf cfg s op) = true := by
  unfold chkC17
  rw [Bool.and_eq_true]
  constructor
  · show ((step cfg s op).1.set == (m.step cfg op).set) = true
    rw [step_set_eq cfg m s op h]; exact beq_self_eq_true _
  · cases op with
    | setExt _ | setCorr _ _ _ | setProg _ _ => simp [Op.isSetter, recOf, step, Obs.ofState]
    | _ => rfl

theorem chkC15_ok (cfg : Cfg) (m : Mon) (s : State) (op : Op) (hl : Link m s) :
    chkC15 m (recOf cfg s op) = true := by
  unfold chkC15
  rw [Bool.and_eq_true]
  constructor
  · rw [List.all_eq_true]
    intro eo heo
    obtain ⟨e, he, rfl⟩ := List.mem_map.mp (show eo ∈ (step cfg s op).2.1.map EvObs.ofEvent from heo)
    obtain ⟨h2, h1⟩ := C15_ud cfg s op e he
    show (m.cbs.getD e.kind.cb.idx false && e.ud == m.ud && true) = true
    rw [hl.cbs, hl.ud, show s.cbs.getD e.kind.cb.idx false = true from h1, h2]
    simp
  · cases op with
    | register _ _ | userData _ | getters => simp [recOf, step] <;> rfl
    | _ => rfl

end RDS

#print axioms RDS.link_init
#print axioms RDS.link_step
#print axioms RDS.chkC01_ok
#print axioms RDS.chkC09_ok
#print axioms RDS.chkC10_ok
#print axioms RDS.chkC11_ok
#print axioms RDS.chkC17_ok
#print axioms RDS.chkC15_ok
