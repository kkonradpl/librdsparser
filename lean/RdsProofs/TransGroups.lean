import RdsProofs.TransGroupsBase
import RdsProofs.TransGroupsText
import RdsProofs.TransGroupsRt
import RdsProofs.TransUtils
import RdsProofs.C14Proofs
/-!
# RdsProofs.TransGroups — `rdsparser_parser_process` and the public API of the translated C refine the model

Seen through `abs` / `absLog` (`TransAbs.lean`): `rdsparser_parser_process` is `process (cfgC u)` (state, callback log,
invariant); `rdsparser_parse_string` (NULL, or a C string through `rdsparser_utils_convert`) is
`step (cfgC u) · (.parseString s)`, boolean result included; every call of the translated public API (`cstep`) is
`step (cfgC u)`, hence every history of calls (`crun`) ends in a C state that denotes the model's.
-/

namespace RDS.C
open RDS

theorem process_refines (u : Bool) (r : C_librdsparser) (hI : CInv r) (g : Group) (hg : g.Bounded) (log : CLog) :
    let out := c_rdsparser_parser_process u r (dataOf g) (errorsOf g) log
    abs out.1 = (process (cfgC u) (abs r) g).1 ∧
    absLog out.2 = absLog log ++ (process (cfgC u) (abs r) g).2 ∧ CInv out.1 := by
  show tg_Ref log (c_rdsparser_parser_process u r (dataOf g) (errorsOf g) log) (process (cfgC u) (abs r) g)
  simp only [c_rdsparser_parser_process, Prod.eta, TransBits.parser_get_flag, TransBits.parser_get_group]
  exact tg_Ref_then (fun s => dispatch (cfgC u) s g) (tg_group_parse r hI g hg log) fun hI1 =>
    tg_Ref_ite (natCast_beq_lit g.type 0) (fun _ => tg_group0 u _ hI1 g hg _) fun _ =>
    tg_Ref_ite (natCast_beq_lit g.type 1) (fun _ => tg_group1 u _ hI1 g _) fun _ =>
    tg_Ref_ite (natCast_beq_lit g.type 2) (fun _ => tg_group2 u _ hI1 g _) fun _ =>
    tg_Ref_ite (natCast_beq_lit g.type 4) (fun _ => tg_group4 _ hI1 g hg _) fun _ =>
    tg_Ref_ite (natCast_beq_lit g.type 10) (fun _ => tg_group10 u _ hI1 g _) fun _ => tg_Ref_refl _ _ hI1

/-- the argument of `rdsparser_parse_string` as the translated function receives it: NULL, or the bytes of the C string -/
def cstrArg (s : Option (List Nat)) : Option (List Int) := s.map (List.map Int.ofNat)

theorem parse_string_refines (u : Bool) (r : C_librdsparser) (hI : CInv r) (s : Option (List Nat))
    (hs : Op.Bounded (.parseString s)) (log : CLog) :
    abs (c_rdsparser_parse_string u r (cstrArg s) log).2.1 = (step (cfgC u) (abs r) (.parseString s)).1 ∧
    absLog (c_rdsparser_parse_string u r (cstrArg s) log).2.2 =
      absLog log ++ (step (cfgC u) (abs r) (.parseString s)).2.1 ∧
    CInv (c_rdsparser_parse_string u r (cstrArg s) log).2.1 ∧
    (c_rdsparser_parse_string u r (cstrArg s) log).1 = b2i (step (cfgC u) (abs r) (.parseString s)).2.2 := by
  cases s with
  | none => exact ⟨rfl, (List.append_nil _).symm, hI, rfl⟩
  | some bytes =>
    obtain ⟨hiff, hsome⟩ := utils_convert_refines bytes hs (List.replicate 4 0) (List.replicate 4 0) rfl rfl
    -- the C function and the model's step, each as a function of what the conversion returns
    simp only [c_rdsparser_parse_string, cstrArg, Option.map_some, Option.isSome_some, if_true, Option.getD_some, step]
    cases hu : utilsConvert bytes with
    | none =>
      simp only [hiff.2 hu, bne_self_eq_false, Bool.false_eq_true, if_false]
      exact ⟨trivial, (List.append_nil _).symm, hI, rfl⟩
    | some g =>
      simp only [hsome g hu]
      obtain ⟨p1, p2, p3⟩ := process_refines u r hI g (C14_decoded bytes g hu).1 log
      exact ⟨p1, p2, p3, rfl⟩

/-- the translated public API as one step function -/
def cstep (u : Bool) (r : C_librdsparser) : Op → C_librdsparser × CLog
  | .init => (c_rdsparser_init r, [])
  | .clear => (c_rdsparser_clear r, [])
  | .parse g => c_rdsparser_parse u r (dataOf g) (errorsOf g) []
  | .parseString s => ((c_rdsparser_parse_string u r (cstrArg s) []).2.1, (c_rdsparser_parse_string u r (cstrArg s) []).2.2)
  | .setExt v => (c_rdsparser_set_extended_check r (b2i v), [])
  | .setCorr t k v => (c_rdsparser_set_text_correction r (textIdx t) (typeIdx k) (v : Int), [])
  | .setProg t v => (c_rdsparser_set_text_progressive r (textIdx t) (b2i v), [])
  | .register c on => (cRegister c r (b2i on), [])
  | .userData n => (c_rdsparser_set_user_data r (n : Int), [])
  | .getters => (r, [])

/-- ops of the translated fragment within the C API's argument ranges: every op of the public API, with
`Op.Bounded` (RdsSpec/Statements.lean) — 16-bit blocks, 8-bit error levels and thresholds, and for `parseString`
NULL or a C string (every byte 1..255) -/
def Op.Translatable (op : Op) : Prop := op.Bounded

theorem cstep_refines (u : Bool) (r : C_librdsparser) (hI : CInv r) (op : Op) (hop : Op.Translatable op) :
    abs (cstep u r op).1 = (step (cfgC u) (abs r) op).1 ∧
    absLog (cstep u r op).2 = (step (cfgC u) (abs r) op).2.1 ∧ CInv (cstep u r op).1 := by
  -- a call that invokes no callback
  have quiet {c : C_librdsparser} {m : State} (h : abs c = m ∧ CInv c) :
      abs c = m ∧ absLog ([] : CLog) = [] ∧ CInv c := ⟨h.1, rfl, h.2⟩
  cases op with
  | init => exact quiet (tb_init_refines r)
  | clear => exact quiet (tb_clear_refines r hI)
  | parse g =>
    obtain ⟨h1, h2, h3⟩ := process_refines u r hI g hop []
    exact ⟨h1, h2.trans (List.nil_append _), h3⟩
  | parseString s =>
    obtain ⟨h1, h2, h3, _⟩ := parse_string_refines u r hI s hop []
    exact ⟨h1, h2.trans (List.nil_append _), h3⟩
  | setExt v => exact quiet (set_extended_check_refines r hI v)
  | setCorr t k v => exact quiet (set_text_correction_refines r hI t k v)
  | setProg t v => exact quiet (set_text_progressive_refines r hI t v)
  | register c on => exact quiet (register_refines r hI c on)
  | userData n => exact quiet (set_user_data_refines r hI n)
  | getters => exact ⟨rfl, rfl, hI⟩

def crun (u : Bool) (ops : List Op) : C_librdsparser :=
  ops.foldl (fun r op => (cstep u r op).1) (c_rdsparser_init C_librdsparser.zero)

theorem tg_run_from (u : Bool) (ops : List Op) (hops : ∀ op ∈ ops, Op.Translatable op) (r : C_librdsparser)
    (hI : CInv r) :
    abs (ops.foldl (fun r op => (cstep u r op).1) r) = runFrom (cfgC u) (abs r) ops ∧
    CInv (ops.foldl (fun r op => (cstep u r op).1) r) := by
  induction ops generalizing r with
  | nil => exact ⟨rfl, hI⟩
  | cons op ops ih =>
    obtain ⟨h1, _, h3⟩ := cstep_refines u r hI op (hops op List.mem_cons_self)
    have := ih (fun o ho => hops o (List.mem_cons_of_mem _ ho)) (cstep u r op).1 h3
    simp only [List.foldl_cons, runFrom]
    rw [h1] at this
    exact this

theorem crun_refines (u : Bool) (ops : List Op) (hops : ∀ op ∈ ops, Op.Translatable op) :
    abs (crun u ops) = run (cfgC u) ops ∧ CInv (crun u ops) := by
  have h0 := tb_init_refines C_librdsparser.zero
  have := tg_run_from u ops hops _ h0.2
  rw [h0.1] at this
  exact this

end RDS.C

#print axioms RDS.C.ecc_lookup_refines
#print axioms RDS.C.process_refines
#print axioms RDS.C.parse_string_refines
#print axioms RDS.C.cstep_refines
#print axioms RDS.C.crun_refines
