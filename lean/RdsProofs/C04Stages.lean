import RdsProofs.C04Frame
import RdsProofs.CellsSingle
import RdsProofs.Sim
/-!
# `HOk` for the elementary stages of the handlers (a field write, a text update, the AF pair of a 0A group)
and for `group2`, `group4`, `group10`, each of which is a single stage
-/
namespace RDS

theorem ownGood_of_snap {e : Event} {fin : State} (h : e.snap = fin)
    (ha : ∀ k, e.kind = .af k → fin.used.af.getD ((k - 87500) / 100) false = true) : ownGood fin e := by
  obtain ⟨k, u, sn⟩ := e
  simp only at h; subst h
  cases k <;> simp only [ownGood]
  case af k => exact ha k rfl

theorem HOk_single {X : Comp} {s s' : State} {k : EvKind} {cond forcedB : Bool}
    (hreg : ∀ c, s'.registered c = s.registered c)
    (htouch : ∀ Y, Y ≠ X → Y.view s' = Y.view s)
    (hk : compOf k = some X)
    (hcond : cond = true ↔ (X.view s' ≠ X.view s ∨ forcedB = true)) :
    HOk [X] (if forcedB then [X] else []) s (s', if cond then emit s' k.cb k else []) := by
  obtain ⟨hkp, hcb, hna, hrt, haf⟩ := compOf_spec hk
  have hkinds : ∀ e ∈ (if cond then emit s' k.cb k else []), e.kind = k ∧ e.snap = s' ∧ s.registered k.cb = true := by
    intro e he
    split at he
    · obtain ⟨hk, hs, _, hr⟩ := mem_emit he
      exact ⟨hk, hs, hreg _ ▸ hr⟩
    · simp at he
  exact {
    reg := hreg
    touch := fun Y hY => htouch Y (by simpa using hY)
    forced := fun Y hY => by cases forcedB <;> simp_all
    cnt := fun Y hYa hYr => by
      show cntK (if cond then emit s' k.cb k else []) Y.kindP = _
      by_cases hYX : Y = X
      · subst hYX
        have hm : (Y ∈ if forcedB = true then [Y] else []) ↔ forcedB = true := by cases forcedB <;> simp
        by_cases hc : cond = true
        · rw [if_pos hc, if_pos ((hcond.1 hc).imp id hm.2), cntK_emit, hreg, ← hcb, hYr, hkp]; rfl
        · rw [if_neg hc, if_neg (fun h => hc (hcond.2 (h.imp id hm.1)))]; rfl
      · -- another component: untouched, not forced, and `k` is not its kind
        have hv := htouch Y hYX
        have hF : Y ∉ (if forcedB = true then [X] else []) := by cases forcedB <;> simp [hYX]
        refine Eq.trans ?_ (if_neg (fun h => h.elim (fun h => h hv) hF)).symm
        refine cntK_zero_of fun e he => ?_
        rw [(hkinds e he).1]
        cases hp : Y.kindP k
        · rfl
        · have := compOf_of_kindP hp hYa
          rw [hk] at this; cases this; exact absurd rfl hYX
    rtBad := cntK_zero_of fun e he => by rw [(hkinds e he).1]; exact hrt
    af := fun _ => by
      show AfOk s.used.af s'.used.af (afKhz _)
      have hv := htouch .af (fun h => hna h.symm)
      simp only [Comp.view, CV.b.injEq] at hv
      rw [hv, afKhz_eq_nil_of]
      · exact AfOk_refl _
      · intro e he; rw [(hkinds e he).1]; exact haf
    evreg := fun e he => by rw [(hkinds e he).1]; exact (hkinds e he).2.2
    own := fun e he => by
      refine ownGood_of_snap (hkinds e he).2.1 fun k' hk' => ?_
      rw [(hkinds e he).1] at hk'; subst hk'
      simp [compOf] at hk }

theorem HOk_setField (s : State) (f : Fld) (v : Int) : HOk [.sc f] [] s (setField s f v) := by
  have h := HOk_single (X := .sc f) (s := s) (s' := (setField s f v).1) (k := f.ev)
    (cond := (bufUpdate s.set.ext (s.used.get f) (s.temp.get f) v).2.2) (forcedB := false)
    (setField_registered s f v)
    (by
      intro Y hY
      cases Y
      case sc f' =>
        have : f' ≠ f := fun h => hY (by rw [h])
        simp [Comp.view, setField_used_get_ne s f v f' this]
      all_goals simp [Comp.view])
    (compOf_ev f)
    (by simp [Comp.view, setField_used_get, bufUpdate_changed_iff])
  rw [← setField_snd] at h
  exact h

def rtComp (g : Group) : Comp := if g.b / 16 % 2 = 0 then .rt0 else .rt1

theorem compOf_rt (g : Group) : compOf (.rt (g.b / 16 % 2)) = some (rtComp g) := by
  unfold compOf rtComp
  have : g.b / 16 % 2 = 0 ∨ g.b / 16 % 2 = 1 := by omega
  rcases this with h | h <;> simp [h]

theorem rtComp_view (g : Group) (s : State) : (rtComp g).view s = .t (s.rt (g.b / 16 % 2)) := by
  unfold rtComp State.rt
  split <;> simp [Comp.view]

theorem rtComp_view_setRt {g : Group} {Y : Comp} (hY : Y ≠ rtComp g) (s : State) (t : Text) :
    Y.view (s.setRt (g.b / 16 % 2) t) = Y.view s := by
  cases Y with
  | rt0 =>
    have : g.b / 16 % 2 ≠ 0 := fun h => hY (by simp [rtComp, h])
    simp [Comp.view, setRt_rt0, this]
  | rt1 =>
    have : g.b / 16 % 2 = 0 := Classical.byContradiction fun h => hY (by simp [rtComp, h])
    simp [Comp.view, setRt_rt1, this]
  | _ => simp [Comp.view]

theorem HOk_g2tail (cfg : Cfg) (s0 s2 : State) (g : Group) (clr : Bool)
    (hreg : ∀ c, s2.registered c = s0.registered c) (hview : ∀ Y, Y ≠ rtComp g → Y.view s2 = Y.view s0)
    (hclr : clr = false → s2.rt (g.b / 16 % 2) = s0.rt (g.b / 16 % 2)) :
    HOk [rtComp g] (if clr then [rtComp g] else []) s0 (g2tail cfg s2 g clr) := by
  unfold g2tail
  extract_lets flag u s3
  refine @HOk_single (rtComp g) s0 s3 (.rt flag) (clr || u.1.2 || u.2.2) clr
    (by intro c; simp [s3, hreg]) (fun Y hY => (rtComp_view_setRt hY _ _).trans (hview Y hY)) (compOf_rt g) ?_
  rw [rtComp_view, rtComp_view, setRt_rt_same]
  cases clr
  · simp only [Bool.false_or, ne_eq, CV.t.injEq, Bool.false_eq_true, or_false]
    rw [← hclr rfl]
    unfold u g2u
    cases hv : g.versionB
    · simp only [Bool.not_false, if_true]
      exact parserUpdate2_changed_iff cfg s2.set _ .rt g.c g.d g.eb g.ec g.ed _ _ (by omega)
    · simp only [Bool.not_true, Bool.false_eq_true, if_false, Bool.false_or]
      exact parserUpdate_changed_iff ..
  · simp

theorem g2s2_of_same {s : State} {g : Group} (h : g.eb = 0 → ((g.b / 16 % 2 : Nat) : Int) = s.lastRt) :
    g2s2 s g = s ∧ g2clr s g = false := by
  have : (decide (g.eb = 0) && (((g.b / 16 % 2 : Nat) : Int) != s.lastRt)) = false := by
    by_cases heb : g.eb = 0
    · simp [h heb]
    · simp [heb]
  unfold g2s2 g2step g2clr
  simp only [this, Bool.false_and, Bool.false_eq_true, if_false]
  exact ⟨trivial, trivial⟩

theorem g2s2_view (s : State) (g : Group) :
    (∀ c, (g2s2 s g).registered c = s.registered c) ∧ (∀ Y, Y ≠ rtComp g → Y.view (g2s2 s g) = Y.view s) ∧
    (g2clr s g = false → (g2s2 s g).rt (g.b / 16 % 2) = s.rt (g.b / 16 % 2)) := by
  have e : ∀ (x : State) (v : Int) (Y : Comp), Y.view { x with lastRt := v } = Y.view x := fun _ _ Y => by cases Y <;> rfl
  unfold g2s2
  generalize (decide (g.eb = 0) && ((g.b / 16 % 2 : Nat) : Int) != s.lastRt) = sw
  generalize g2clr s g = clr
  cases clr <;> cases sw
  · exact ⟨fun _ => rfl, fun _ _ => rfl, fun _ => rfl⟩
  · exact ⟨fun _ => rfl, fun Y _ => e s _ Y, fun _ => rfl⟩
  · exact ⟨fun c => setRt_registered .., fun Y hY => rtComp_view_setRt hY _ _, fun h => nomatch h⟩
  · exact ⟨fun c => setRt_registered .., fun Y hY => (e _ _ Y).trans (rtComp_view_setRt hY _ _), fun h => nomatch h⟩

theorem HOk_group2 (cfg : Cfg) (s : State) (g : Group) :
    HOk [rtComp g] (if g2clr s g then [rtComp g] else []) s (group2 cfg s g) := by
  rw [group2_eq]
  by_cases hg : (g.eb != 0 && ((g.b / 16 % 2 : Nat) : Int) != (g2s2 s g).lastRt && (g2s2 s g).lastRt != -1) = true
  · rw [if_pos hg]
    have heb : g.eb ≠ 0 := by
      intro h; simp [h] at hg
    obtain ⟨e1, e2⟩ := g2s2_of_same (s := s) (g := g) fun h => absurd h heb
    rw [e1, e2]
    exact HOk_nil _ s
  · rw [if_neg hg]
    obtain ⟨a, b, c⟩ := g2s2_view s g
    exact HOk_g2tail cfg s (g2s2 s g) g (g2clr s g) a b c

theorem HOk_psStage (cfg : Cfg) (s : State) (w eb ex pos : Nat) :
    HOk [.ps] [] s
      ({ s with ps := (parserUpdate cfg s.set s.ps .ps w eb ex pos).1 },
       if (parserUpdate cfg s.set s.ps .ps w eb ex pos).2
       then emit { s with ps := (parserUpdate cfg s.set s.ps .ps w eb ex pos).1 } .ps .ps else []) :=
  @HOk_single .ps s { s with ps := (parserUpdate cfg s.set s.ps .ps w eb ex pos).1 } .ps
    (parserUpdate cfg s.set s.ps .ps w eb ex pos).2 false (fun _ => rfl)
    (by intro Y hY; cases Y <;> first | rfl | exact absurd rfl hY) rfl
    (by simpa [Comp.view] using parserUpdate_changed_iff cfg s.set s.ps .ps w eb ex pos)

theorem HOk_group10 (cfg : Cfg) (s : State) (g : Group) : HOk [.ptyn] [] s (group10 cfg s g) :=
  HOk_guard _ fun _ => HOk_single (X := .ptyn) (k := .ptyn) (forcedB := false) (fun _ => rfl)
    (by intro Y hY; cases Y <;> first | rfl | exact absurd rfl hY) rfl
    (by
      have := parserUpdate2_changed_iff cfg s.set s.ptyn .ptyn g.c g.d g.eb g.ec g.ed (4 * (g.b % 2)) (4 * (g.b % 2) + 2) (by omega)
      simpa [Comp.view] using this)

/-- for the stages whose events belong to no component (AF and CT kinds) -/
theorem HOk_noComp {T : List Comp} {s : State} {r : State × List Event}
    (hreg : ∀ c, r.1.registered c = s.registered c) (hview : ∀ X : Comp, X ≠ .af → X.view r.1 = X.view s)
    (hT : Comp.af ∉ T → r.1.used.af = s.used.af)
    (hev : ∀ e ∈ r.2, compOf e.kind = none ∧ rtBadP e.kind = false ∧ s.registered e.kind.cb = true ∧ ownGood r.1 e)
    (haf : s.registered .af = true → AfOk s.used.af r.1.used.af (afKhz r.2)) : HOk T [] s r where
  reg := hreg
  touch X hX := by
    by_cases hXa : X = .af
    · subst hXa; exact congrArg CV.b (hT hX)
    · exact hview X hXa
  forced _ h := nomatch h
  cnt X hXa _ := by
    rw [if_neg (by simp [hview X hXa])]
    refine cntK_zero_of fun e he => ?_
    cases hp : X.kindP e.kind
    · rfl
    · -- `X` would be the component of `e.kind`, which has none
      exact nomatch (compOf_of_kindP hp hXa).symm.trans (hev e he).1
  rtBad := cntK_zero_of fun e he => (hev e he).2.1
  af := haf
  evreg e he := (hev e he).2.2.1
  own e he := (hev e he).2.2.2

theorem HOk_group4 (s : State) (g : Group) : HOk [] [] s (group4 s g) := by
  rw [group4_eq]
  refine HOk_guard _ fun _ => ?_
  cases ctInit (ctFields g).1 (ctFields g).2.1 (ctFields g).2.2.1 (ctFields g).2.2.2 with
  | none => exact HOk_nil _ s
  | some v =>
    refine HOk_noComp (fun _ => rfl) (fun _ _ => rfl) (fun _ => rfl) (fun e he => ?_) (fun _ => ?_)
    · obtain ⟨hk, _, _, hr⟩ := mem_emit he
      obtain ⟨k, u, sn⟩ := e
      simp only at hk; subst hk
      exact ⟨rfl, rfl, hr, trivial⟩
    · show AfOk s.used.af s.used.af (afKhz (emit s .ct (.ct v)))
      rw [afKhz_eq_nil_of fun e he => by rw [(mem_emit he).1]; rfl]
      exact AfOk_refl _

/-- `addAf` leaves the visible list alone and is silent (the code is listed already, is held back as candidate, or
is not representable), or it sets a bit that was clear and notifies -/
theorem addAf_cases (s : State) (v : Nat) (hlen : s.used.af.length = afBits) :
    ((addAf s v).1.used.af = s.used.af ∧ (addAf s v).2 = []) ∨
    (∃ hv : v < s.used.af.length, s.used.af[v] = false ∧
      (addAf s v).1.used.af = s.used.af.set v true ∧
      (addAf s v).2 = emit (addAf s v).1 .af (.af (87500 + v * 100))) := by
  by_cases h1 : afGet s.used.af v = true
  · rw [addAf_known s v h1]; exact .inl ⟨rfl, rfl⟩
  by_cases h2 : (s.set.ext && !afGet s.temp.af v) = true
  · rw [addAf_candidate s v h1 h2]; exact .inl ⟨rfl, rfl⟩
  rw [addAf_listed s v h1 h2]
  cases hv : afValid v
  · left; simp [afSet, hv]
  · have hlt : v < s.used.af.length := hlen ▸ afValid_lt hv
    refine .inr ⟨hlt, ?_, by simp [afSet, hv], by simp [afSet, hv]⟩
    simpa [afGet, hv, List.getD_eq_getElem?_getD, List.getElem?_eq_getElem hlt] using h1

theorem afKhz_emit_af (s : State) (k : Nat) :
    afKhz (emit s .af (.af k)) = if s.registered .af then [k] else [] := by
  unfold emit; split <;> simp [afKhz, afEventKhz, EvObs.ofEvent]

theorem mem_addAf {s : State} {v : Nat} {e : Event} (hlen : s.used.af.length = afBits)
    (he : e ∈ (addAf s v).2) :
    e.kind = .af (87500 + v * 100) ∧ s.registered .af = true ∧
      e.snap.used.af.getD v false = true := by
  rcases addAf_cases s v hlen with ⟨_, h⟩ | ⟨hv, _, h2, h⟩
  · rw [h] at he; simp at he
  · rw [h] at he
    obtain ⟨a, b, _, d⟩ := mem_emit he
    refine ⟨a, by simpa using d, ?_⟩
    rw [b, h2, List.getD_eq_getElem?_getD, List.getElem?_set_self hv]; rfl

theorem HOk_afPair (s : State) (v1 v2 : Nat) (hlen : s.used.af.length = afBits) :
    HOk [.af] [] s ((addAf (addAf s v1).1 v2).1, (addAf s v1).2 ++ (addAf (addAf s v1).1 v2).2) := by
  have hlen2 : (addAf s v1).1.used.af.length = afBits := by rw [addAf_af_length, hlen]
  refine HOk_noComp (by intro c; simp) (fun X hX => ?_) (fun h => absurd (List.mem_singleton_self _) h)
    (fun e he => ?_) (fun hr => ?_)
  · cases X
    case af => exact absurd rfl hX
    all_goals simp [Comp.view]
  · -- an event of either call is an AF event whose snapshot holds its code
    have hmem : ∃ v, e.kind = .af (87500 + v * 100) ∧ s.registered .af = true ∧ e.snap.used.af.getD v false = true := by
      simp only [List.mem_append] at he
      rcases he with he | he
      · exact ⟨v1, mem_addAf hlen he⟩
      · have := mem_addAf hlen2 he
        exact ⟨v2, this.1, by simpa using this.2.1, this.2.2⟩
    obtain ⟨v, hv, hr, hg⟩ := hmem
    obtain ⟨k, u, sn⟩ := e
    simp only at hv hg; subst hv
    refine ⟨rfl, rfl, hr, ?_⟩
    have : (87500 + v * 100 - 87500) / 100 = v := by omega
    simp only [ownGood, this]; exact hg
  · show AfOk s.used.af (addAf (addAf s v1).1 v2).1.used.af (afKhz ((addAf s v1).2 ++ (addAf (addAf s v1).1 v2).2))
    have hr2 : (addAf s v1).1.registered .af = true := by simpa using hr
    have hr3 : (addAf (addAf s v1).1 v2).1.registered .af = true := by simpa using hr
    rw [afKhz_append]
    rcases addAf_cases s v1 hlen with ⟨a1, e1⟩ | ⟨hv1, f1, a1, e1⟩ <;>
      rcases addAf_cases (addAf s v1).1 v2 hlen2 with ⟨a2, e2⟩ | ⟨hv2, f2, a2, e2⟩
    · rw [e1, e2, a2, a1]; exact AfOk_refl _
    · rw [e1, e2, a2, afKhz_emit_af, hr3]
      simp only [a1] at hv2 f2 ⊢
      constructor
      · rw [nac_set _ _ _ hv2 f2]; simp [Nat.mul_comm]
      · simp
    · rw [e1, e2, a2, a1, afKhz_emit_af, hr2]
      constructor
      · rw [nac_set _ _ _ hv1 f1]; simp [Nat.mul_comm]
      · simp
    · rw [e1, e2, a2, afKhz_emit_af, afKhz_emit_af, hr2, hr3]
      simp only [a1] at hv2 f2 ⊢
      have hv2' : v2 < s.used.af.length := by simpa using hv2
      have hne : v1 ≠ v2 := by
        intro h; subst h
        rw [List.getElem_set_self] at f2; cases f2
      have f2' : s.used.af[v2] = false := by
        rw [List.getElem_set_ne hne] at f2; exact f2
      constructor
      · rw [nac_set2 _ _ _ _ hv1 hv2' f1 f2' hne]
        simp only [if_true, List.nil_append, List.cons_append, Nat.zero_add]
        split
        · simp [Nat.mul_comm]
        · rw [sortNat_pair_comm]; simp [Nat.mul_comm]
      · simp
end RDS
