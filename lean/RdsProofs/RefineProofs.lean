import RdsProofs.CellsProofs
/-!
# RdsProofs.RefineProofs — the per-property predicates are consequences of the closed form `chkCells`

`chkCells` (proved for the model: `chkCells_ok`) says that after a delivered group all four texts equal
`expectedText`. The refined predicates demand exactly what C02 / C06 / C08 (and the convergence clause of C07) state
on their own. `chkC02`, `chkC06`, `chkC08` and `chkC08first` follow from `chkCells`, `chkC07conv` from `chkC02`; the
`_ok` forms for the model are stated for the first three.
-/
namespace RDS

theorem cellSpec_old_or_conv {cfg : Cfg} {info data : Nat} {prog : Bool} {old : Cell} {b eb ex : Nat} :
    cellSpec cfg info data prog old b eb ex = old ∨
      (cellSpec cfg info data prog old b eb ex).ch = conv cfg b := by
  rcases cellSpec_cases cfg info data prog old b eb ex with h | ⟨h, _⟩
  · exact .inl h
  · exact .inr (by rw [h])

theorem cellSpec_prog_cases {cfg : Cfg} {info data : Nat} {old : Cell} {b eb ex : Nat} :
    cellSpec cfg info data true old b eb ex = old ∨
      cellSpec cfg info data true old b eb ex = cellSpec cfg info data false old b eb ex := by
  unfold cellSpec
  simp only []
  generalize (if (decide (eb = 0) && decide (ex = 0)) = true then 0 else 2 * eb + 3 * ex - 1) = lvl
  by_cases hl : lvl ≤ old.lvl
  · right; simp [hl]
  · left; simp [hl]

theorem cellsBy_of_expected (cfg : Cfg) (m : Mon) (r : StepRec) (g : Group)
    (rel : Nat → Cell → Cell → Option (Nat × Nat) → Bool)
    (h : ((List.range 4).all fun t => (r.after.text t).cells == expectedText cfg m r.before g t) = true)
    (hnone : ∀ t old, rel t old old none = true)
    (hsome : rtNoisy m g = false → ∀ t old b ex,
      rel t old (cellSpec cfg (r.before.set.corr (textIdOf t) .info) (r.before.set.corr (textIdOf t) .data)
        (r.before.set.prog (textIdOf t)) old b g.eb ex) (some (b, ex)) = true)
    (hnoisy : rtNoisy m g = true → ∀ t old b ex, rel t old old (some (b, ex)) = true) :
    cellsBy m r g rel = true := by
  unfold cellsBy
  rw [all_range4] at h ⊢
  intro t ht
  simp only []
  rw [beq_iff_eq.mp (h t ht), expectedText_eq]
  generalize (if (switchDiscard m r.before g && decide (t = 1 + g.b / 16 % 2)) = true
    then (r.before.text t).cells.cleared else (r.before.text t).cells) = old
  rw [Bool.and_eq_true]
  constructor
  · rw [expCells_length]; exact beq_self_eq_true _
  · rw [List.all_eq_true]
    intro i hi
    rw [expCells_getD (List.mem_range.mp hi)]
    cases hn : rtNoisy m g
    · -- not noisy: both sides look at the same address list
      simp only [Bool.false_eq_true, if_false]
      cases hf : List.find? (fun a => decide (a.2.1 = i)) (List.filter (fun a => decide (a.1 = t)) (addressed g)) with
      | none => exact hnone _ _
      | some a =>
        obtain ⟨a1, a2, b, ex⟩ := a
        exact hsome hn _ _ _ _
    · -- noisy: every cell is the old one
      simp only [if_true, List.find?_nil]
      cases hf : List.find? (fun a => decide (a.2.1 = i)) (List.filter (fun a => decide (a.1 = t)) (addressed g)) with
      | none => exact hnone _ _
      | some a =>
        obtain ⟨a1, a2, b, ex⟩ := a
        exact hnoisy hn _ _ _ _

theorem chkC02_of_chkCells (cfg : Cfg) (m : Mon) (r : StepRec) (h : chkCells cfg m r = true) :
    chkC02 cfg m r = true := by
  rw [chkCells_eq_perCall] at h
  rw [chkC02_eq_perCall]
  refine perCall_mono h (fun g _ h => ?_) id
  apply cellsBy_of_expected cfg m r g _ h
  · intro t old; simp [relC02]
  · intro _ t old b ex
    unfold relC02
    simp only []
    by_cases he : g.eb = 0 ∧ ex = 0
    · obtain ⟨h1, h2⟩ := he
      rw [h1, h2, cellSpec_error_free]
      simp
    · have : (decide (g.eb = 0) && decide (ex = 0)) = false := by
        simp only [Bool.and_eq_false_iff, decide_eq_false_iff_not]; omega
      rw [this]
      simp only [Bool.false_eq_true, if_false, Bool.or_eq_true, beq_iff_eq]
      exact cellSpec_old_or_conv
  · intro hn t old b ex
    have heb := rtNoisy_eb m g hn
    simp [relC02, heb]

theorem chkC06_of_chkCells (cfg : Cfg) (m : Mon) (r : StepRec) (h : chkCells cfg m r = true) :
    chkC06 cfg m r = true := by
  rw [chkCells_eq_perCall] at h
  rw [chkC06_eq_perCall]
  refine perCall_mono h (fun g _ h => ?_) fun _ => rfl
  cases hn : rtNoisy m g
  · rw [Bool.false_or]
    apply cellsBy_of_expected cfg m r g _ h
    · intro t old; rfl
    · intro _ t old b ex
      unfold relC06
      simp only []
      cases hp : r.before.set.prog (textIdOf t)
      · simp
      · simp only [if_true, Bool.or_eq_true, beq_iff_eq]
        exact cellSpec_prog_cases
    · intro hn'; rw [hn] at hn'; exact absurd hn' (by simp)
  · rfl

theorem chkC08_of_chkCells (cfg : Cfg) (m : Mon) (r : StepRec) (h : chkCells cfg m r = true) :
    chkC08 m r = true := by
  rw [chkCells_eq_perCall] at h
  rw [chkC08_eq_perCall]
  refine perCall_mono h (fun g _ h => ?_) fun h => ?_
  · cases hn : rtNoisy m g
    · -- the clause is `cellsBy` with the relation "addressed or unchanged", read at the two RT texts
      have hc := cellsBy_of_expected cfg m r g (fun _ old new a => a.isSome || new == old) h
        (fun _ _ => by simp) (fun _ _ _ _ _ => rfl) (fun _ _ _ _ _ => rfl)
      unfold cellsBy at hc
      rw [all_range4] at hc
      rw [if_neg Bool.false_ne_true, List.all_eq_true]
      intro f hf
      have := hc (1 + f) (by have := List.mem_range.mp hf; omega)
      simpa only [decide_eq_decide.mpr (show 1 + f = 1 + g.b / 16 % 2 ↔ f = g.b / 16 % 2 by omega),
        Option.isSome_map] using this
    · simp only [all_range4, beq_iff_eq] at h
      have keep := fun t => expectedText_keep cfg m r.before g t
        (by rw [rtNoisy_switchDiscard m r.before g hn, Bool.false_and]) (.inl hn)
      have h1 : r.after.rt0.cells = r.before.rt0.cells := (h 1 (by omega)).trans (keep 1)
      have h2 : r.after.rt1.cells = r.before.rt1.cells := (h 2 (by omega)).trans (keep 2)
      rw [if_pos rfl, h1, h2]
      simp
  · simp only [all_range4, beq_iff_eq] at h
    have h1 : r.after.rt0.cells = r.before.rt0.cells := h 1 (by omega)
    have h2 : r.after.rt1.cells = r.before.rt1.cells := h 2 (by omega)
    rw [h1, h2]
    simp

theorem chkC08first_of_chkCells (cfg : Cfg) (m : Mon) (r : StepRec) (h : chkCells cfg m r = true) :
    chkC08first cfg m r = true := by
  unfold chkC08first
  cases hg : r.op.group? with
  | none => rfl
  | some g =>
    have h := ((perCall_iff r.op _ _).mp (chkCells_eq_perCall cfg m r ▸ h)).1 g hg
    rw [all_range4] at h
    simp only [h 1 (by omega), h 2 (by omega), Bool.and_self, Bool.or_true]

theorem cellsBy_mono (m : Mon) (r : StepRec) (g : Group) (rel1 rel2 : Nat → Cell → Cell → Option (Nat × Nat) → Bool)
    (h : ∀ t o n a, rel1 t o n a = true → rel2 t o n a = true) (h1 : cellsBy m r g rel1 = true) :
    cellsBy m r g rel2 = true := by
  unfold cellsBy at *
  simp only [List.all_eq_true, Bool.and_eq_true] at *
  intro t ht
  obtain ⟨hl, hc⟩ := h1 t ht
  exact ⟨hl, fun i hi => h _ _ _ _ (hc i hi)⟩

/-- C07's convergence clause is the error-free branch of C02's relation, restricted to progressive texts -/
theorem relC07conv_of_relC02 (cfg : Cfg) (set : Settings) (eb t : Nat) (o n : Cell) (a : Option (Nat × Nat))
    (hr : relC02 cfg eb t o n a = true) : relC07conv cfg set eb t o n a = true := by
  cases a with
  | none => rfl
  | some p =>
    obtain ⟨b, ex⟩ := p
    unfold relC07conv
    unfold relC02 at hr
    simp only [] at hr ⊢
    by_cases hp : (set.prog (textIdOf t) && decide (eb = 0) && decide (ex = 0)) = true
    · rw [if_pos hp]
      rw [Bool.and_eq_true, Bool.and_eq_true] at hp
      rwa [if_pos (by rw [Bool.and_eq_true]; exact ⟨hp.1.2, hp.2⟩)] at hr
    · rw [if_neg hp]

theorem chkC07conv_of_chkC02 (cfg : Cfg) (m : Mon) (r : StepRec) (h : chkC02 cfg m r = true) :
    chkC07conv cfg m r = true :=
  chkC07conv_eq_perCall cfg m r ▸ perCall_mono (chkC02_eq_perCall cfg m r ▸ h) (fun g _ => cellsBy_mono m r g _ _ fun t o n a => relC07conv_of_relC02 cfg r.before.set g.eb t o n a)
    fun _ => rfl

theorem chkC02_ok (cfg : Cfg) (m : Mon) (s : State) (op : Op) (hf : m.lastFlag = s.lastRt) :
    chkC02 cfg m (recOf cfg s op) = true :=
  chkC02_of_chkCells _ _ _ (chkCells_ok cfg m s op hf)

theorem chkC06_ok (cfg : Cfg) (m : Mon) (s : State) (op : Op) (hf : m.lastFlag = s.lastRt) :
    chkC06 cfg m (recOf cfg s op) = true :=
  chkC06_of_chkCells _ _ _ (chkCells_ok cfg m s op hf)

theorem chkC08_ok (cfg : Cfg) (m : Mon) (s : State) (op : Op) (hf : m.lastFlag = s.lastRt) :
    chkC08 m (recOf cfg s op) = true :=
  chkC08_of_chkCells _ _ _ (chkCells_ok cfg m s op hf)

#print axioms chkC02_of_chkCells
#print axioms chkC06_of_chkCells
#print axioms chkC08_of_chkCells
#print axioms chkC08first_of_chkCells
#print axioms chkC07conv_of_chkC02
#print axioms chkC02_ok
#print axioms chkC06_ok
#print axioms chkC08_ok

end RDS
