import RdsProofs.TableBase
/-!
# RdsProofs.TableC02 — kernel-checked theorems about the extracted character table (C02)

Whole-table facts evaluated by the kernel, lifted to `∀` by the `tbl_…` lemmas of `RdsProofs.TableBase` (see there).
-/

namespace RDS
open RDS.TableCheck

theorem C02_stored :
    Generated.g0Stored = (List.range 256).map (fun b => b == 0x0D || decide (0x20 ≤ b)) :=
  eq_of_beq (by decide +kernel)

theorem C02_eol : Generated.g0.getD 0x0D 1 = 0 := by decide +kernel

/-- a stored printable never collides with the end-of-text marker -/
theorem C02_no_nul : ∀ b, b ≥ 0x20 → b < 256 → b ≠ 0x0D → Generated.g0.getD b 0 ≠ 0 := by
  intro b h20 hb _
  have h := tbl_zipIdx_all (l := Generated.g0) (p := fun i x => decide (i < 0x20) || x != 0)
    (by decide +kernel) b 0 (by rw [tbl_generated_lengths.1]; exact hb)
  have hlt : ¬ b < 0x20 := by omega
  simpa [hlt] using h

theorem C02_lane_independent :
    Generated.laneDependent = 0 ∧ Generated.laneDependentNarrow = 0 := by decide +kernel

theorem tbl_g0_table : Generated.g0 = (List.range 32).map Reference.g0Value ++ Reference.g0 :=
  eq_of_beq (by decide +kernel)

/-- every stored byte ≥ 0x20 is mapped through IEC 62106 code table E.1 -/
theorem C02_charset : ∀ b, 0x20 ≤ b → b < 256 →
    Generated.g0.getD b 0 = Reference.g0.getD (b - 0x20) 0 := by
  intro b h20 _
  rw [tbl_g0_table, List.getD_eq_getElem?_getD, List.getD_eq_getElem?_getD,
    List.getElem?_append_right (by simpa using h20)]
  simp

#print axioms C02_stored
#print axioms C02_eol
#print axioms C02_no_nul
#print axioms C02_lane_independent
#print axioms C02_charset

end RDS
