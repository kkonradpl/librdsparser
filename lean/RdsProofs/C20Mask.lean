import RdsProofs.C20Base
import RdsProofs.WFProofs
/-!
# C20, instance (B) of the generic simulation: whatever the charset configuration, the
set of received cells evolves the same way (thresholds ≤ 2, levels ≤ 10)
-/
namespace RDS

def c20_LvlOk (t : Text) : Prop := ∀ c ∈ t, c.lvl ≤ 10

def c20_TB (tn tw : Text) : Prop := recvMask tn = recvMask tw ∧ c20_LvlOk tn ∧ c20_LvlOk tw

def c20_ELB (evn evw : List Event) : Prop := nonTextKinds evn = nonTextKinds evw

/-! The received-mask after one store attempt is a function of the mask before (`c20_maskSingle`): no configuration in it. -/

/-- the byte/error combination is storable at all: the tests of `storeOk` that look at neither the cell nor the table -/
def c20_acc (b ei ed : Nat) : Bool :=
  !(b = 0x0D && (ei != 0 || ed != 0)) && !(b != 0x0D && b < 0x20) && !(0x7F ≤ b && (ei != 0 || ed != 0))

def c20_maskSingle (m : List Bool) (b ei ed pos : Nat) : List Bool :=
  if c20_acc b ei ed = true then m.set pos true else m

theorem c20_storeOk_acc (cfg : Cfg) (c : Cell) (b ei ed : Nat) (prog : Bool) :
    storeOk cfg c b ei ed prog =
      (c20_acc b ei ed && !(prog && decide (c.lvl < calcError ei ed)) &&
        !(decide (c.ch = conv cfg b) && decide (c.lvl ≤ calcError ei ed))) := by
  unfold storeOk c20_acc
  generalize (prog && decide (c.lvl < calcError ei ed)) = a1
  generalize (decide (b = 0x0D) && (ei != 0 || ed != 0)) = a2
  generalize (b != 0x0D && decide (b < 0x20)) = a3
  generalize (decide (0x7F ≤ b) && (ei != 0 || ed != 0)) = a4
  cases a1 <;> cases a2 <;> cases a3 <;> cases a4 <;> rfl

theorem c20_recvMask_set (t : Text) (pos : Nat) (c : Cell) :
    recvMask (t.set pos c) = (recvMask t).set pos (c.lvl != 10) := by
  unfold recvMask; rw [List.map_set]

theorem c20_mask_set_self (t : Text) (pos : Nat) (cell : Cell) (hc : t[pos]? = some cell) (hl : cell.lvl ≠ 10) :
    (recvMask t).set pos true = recvMask t := by
  have hm : (recvMask t).getD pos true = true := by
    unfold recvMask
    rw [List.getD_eq_getElem?_getD, List.getElem?_map, hc]
    simp [hl]
  have e := set_getD_self (recvMask t) pos true
  rwa [hm] at e

theorem c20_mask_single (cfg : Cfg) (t : Text) (b ei ed pos : Nat) (prog : Bool)
    (herr : calcError ei ed ≤ 9) (ht : c20_LvlOk t) :
    recvMask (updateSingle cfg t b ei ed pos prog).1 = c20_maskSingle (recvMask t) b ei ed pos ∧
    c20_LvlOk (updateSingle cfg t b ei ed pos prog).1 := by
  unfold c20_maskSingle
  cases hc : t[pos]? with
  | none =>
    rw [updateSingle_none _ _ _ _ _ _ _ hc]
    refine ⟨?_, ht⟩
    have hlen : (recvMask t).length ≤ pos := by
      unfold recvMask; rw [List.length_map]; exact List.getElem?_eq_none_iff.mp hc
    rw [List.set_eq_of_length_le hlen]
    split <;> rfl
  | some cell =>
    rw [updateSingle_some _ _ _ _ _ _ _ _ hc, c20_storeOk_acc]
    have hstored : recvMask (t.set pos ⟨conv cfg b, calcError ei ed⟩) = (recvMask t).set pos true := by
      rw [c20_recvMask_set]
      have : ((⟨conv cfg b, calcError ei ed⟩ : Cell).lvl != 10) = true := by
        show (calcError ei ed != 10) = true
        simp only [bne_iff_ne, ne_eq]; omega
      rw [this]
    have hok : c20_LvlOk (t.set pos ⟨conv cfg b, calcError ei ed⟩) := by
      intro c hm
      rcases List.mem_or_eq_of_mem_set hm with hm | hm
      · exact ht c hm
      · rw [hm]; show calcError ei ed ≤ 10; omega
    cases hacc : c20_acc b ei ed
    · simp only [Bool.false_and, Bool.false_eq_true, if_false]
      exact ⟨trivial, ht⟩
    · simp only [Bool.true_and, if_true]
      cases hcell : (!(prog && decide (cell.lvl < calcError ei ed)) &&
          !(decide (cell.ch = conv cfg b) && decide (cell.lvl ≤ calcError ei ed)))
      · -- a cell that rejects a storable byte has been received before: marking it again changes nothing
        have hl : cell.lvl ≠ 10 := by
          simp only [Bool.and_eq_false_iff, Bool.not_eq_false', Bool.and_eq_true, decide_eq_true_eq] at hcell
          omega
        exact ⟨(c20_mask_set_self t pos cell hc hl).symm, ht⟩
      · exact ⟨hstored, hok⟩

def c20_maskString (m : List Bool) (w ei ed pos : Nat) : List Bool :=
  c20_maskSingle (c20_maskSingle m (w / 256 % 256) ei ed pos) (w % 256) ei ed (pos + 1)

theorem c20_mask_string (cfg : Cfg) (t : Text) (w ei ed pos : Nat) (prog : Bool)
    (herr : calcError ei ed ≤ 9) (ht : c20_LvlOk t) :
    recvMask (updateString cfg t w ei ed pos prog).1 = c20_maskString (recvMask t) w ei ed pos ∧
    c20_LvlOk (updateString cfg t w ei ed pos prog).1 := by
  unfold updateString c20_maskString
  have a1 := c20_mask_single cfg t (w / 256 % 256) ei ed pos prog herr ht
  have a2 := c20_mask_single cfg _ (w % 256) ei ed (pos + 1) prog herr a1.2
  rw [a1.1] at a2
  exact a2

def c20_maskPU (set : Settings) (m : List Bool) (id : TextId) (w eb ex pos : Nat) : List Bool :=
  if (decide (eb ≤ set.corr id .info) && decide (ex ≤ set.corr id .data)) = true then c20_maskString m w eb ex pos else m

theorem c20_mask_pu (cfg : Cfg) (set : Settings) (hs : set.Ok) (t : Text) (id : TextId) (w eb ex pos : Nat)
    (ht : c20_LvlOk t) :
    recvMask (parserUpdate cfg set t id w eb ex pos).1 = c20_maskPU set (recvMask t) id w eb ex pos ∧
    c20_LvlOk (parserUpdate cfg set t id w eb ex pos).1 := by
  unfold parserUpdate c20_maskPU
  by_cases hg : (decide (eb ≤ set.corr id .info) && decide (ex ≤ set.corr id .data)) = true
  · rw [if_pos hg, if_pos hg]
    have hg' := hg
    simp only [Bool.and_eq_true, decide_eq_true_eq] at hg'
    have h1 := hs.corr_le id .info
    have h2 := hs.corr_le id .data
    exact c20_mask_string cfg t w eb ex pos _ (calcError_le (by omega) (by omega)) ht
  · rw [if_neg hg, if_neg hg]
    exact ⟨rfl, ht⟩

theorem c20_ntk_append (a b : List Event) : nonTextKinds (a ++ b) = nonTextKinds a ++ nonTextKinds b := by
  unfold nonTextKinds; rw [List.map_append, List.filter_append]

theorem c20_ntk_emit_text (s : State) (c : Cb) (k : EvKind) (hk : c20_isText k = true) :
    nonTextKinds (emit s c k) = [] := by
  unfold emit nonTextKinds
  split
  · cases k <;> first | rfl | cases hk
  · rfl

theorem c20_ntk_emit_congr (s s' : State) (c : Cb) (k : EvKind) (h : s.cbs = s'.cbs) :
    nonTextKinds (emit s c k) = nonTextKinds (emit s' c k) := by
  have hreg : s.registered c = s'.registered c := by unfold State.registered; rw [h]
  unfold emit
  rw [hreg]
  cases s'.registered c <;> rfl

theorem c20_ax_B (cfgn cfgw : Cfg) (hecc : cfgn.ecc = cfgw.ecc) :
    c20_Ax cfgn cfgw c20_TB Settings.Ok (fun _ => True) (fun _ _ => True) c20_ELB where
  ecc := hecc
  el_nil := rfl
  el_app := by
    intro a a' b b' h1 h2
    unfold c20_ELB at *
    rw [c20_ntk_append, c20_ntk_append, h1, h2]
  el_emit := fun c k hR _ => c20_ntk_emit_congr _ _ c k hR.cbs
  el_text := by
    intro sn sw c k f f' _ hk _
    unfold c20_ELB
    have e : ∀ (s : State) (f : Bool), nonTextKinds (if f = true then emit s c k else []) = [] := by
      intro s f
      cases f
      · rfl
      · exact c20_ntk_emit_text s c k hk
    rw [e, e]
  fr_refl := fun _ => trivial
  fr_or := fun _ _ => trivial
  pu := by
    intro tn tw set id w eb ex pos ht hs _
    have a := c20_mask_pu cfgn set hs tn id w eb ex pos ht.2.1
    have b := c20_mask_pu cfgw set hs tw id w eb ex pos ht.2.2
    refine ⟨⟨?_, a.2, b.2⟩, trivial⟩
    rw [a.1, b.1, ht.1]
  avail := by
    intro t t' ht
    have e : ∀ t : Text, getAvailable t = (recvMask t).any id := by
      intro t
      unfold getAvailable recvMask
      rw [List.any_map]
      rfl
    rw [e, e, ht.1]
  cleared := by
    intro t t' ht
    have hlen : t.length = t'.length := by
      have := congrArg List.length ht.1
      unfold recvMask at this
      rwa [List.length_map, List.length_map] at this
    have e : ∀ t : Text, recvMask t.cleared = List.replicate t.length false := by
      intro t
      unfold recvMask Text.cleared
      rw [List.map_map]
      exact List.map_const' ..
    have ok : ∀ t : Text, c20_LvlOk t.cleared := by
      intro t c hc
      unfold Text.cleared at hc
      rcases List.mem_map.mp hc with ⟨_, _, rfl⟩
      exact Nat.le_refl _
    exact ⟨by rw [e, e, hlen], ok t, ok t'⟩
  init := by
    intro n
    have ok : c20_LvlOk (List.replicate n blank) := by
      intro c hc
      rw [List.eq_of_mem_replicate hc]
      exact Nat.le_refl _
    exact ⟨rfl, ok, ok⟩
  p_init := by
    unfold Settings.Ok Settings.init
    exact ⟨by decide, by decide, by decide, by decide, by decide, by decide⟩
  p_ext := fun _ _ h => h
  p_corr := fun _ t k v h => h.setCorr t k v
  p_prog := fun _ t v h => h.setProg t v

theorem c20_gw_true (g : Group) : c20_GW (fun _ => True) g :=
  ⟨fun _ => .of trivial _ _, fun _ => ⟨fun _ => .of trivial _ _, .of trivial _ _⟩, fun _ _ => ⟨.of trivial _ _, .of trivial _ _⟩⟩

theorem c20_nonText_of_R {sn sw : State} (h : c20_R c20_TB Settings.Ok sn sw) : nonText sn = nonText sw := by
  unfold nonText
  rw [h.used, h.temp, h.set, h.lastRt, h.cbs, h.ud, h.ps.1, h.rt0.1, h.rt1.1, h.ptyn.1]

end RDS
