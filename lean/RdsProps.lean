import RdsProps.C01
import RdsProps.C02
import RdsProps.C03
import RdsProps.C04
import RdsProps.C05
import RdsProps.C06
import RdsProps.C07
import RdsProps.C08
import RdsProps.C09
import RdsProps.C10
import RdsProps.C11
import RdsProps.C12
import RdsProps.C13
import RdsProps.C14
import RdsProps.C15
import RdsProps.C16
import RdsProps.C17
import RdsProps.C18
import RdsProps.C19
import RdsProps.Instantiated
import RdsProps.C20
import RdsProps.NonVacuity
import RdsProps.Refinement
