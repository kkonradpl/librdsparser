/-!
# RdsC.Prelude — hand-written support for the output of `tools/c2lean.py`

The generated file `RdsC/Translated.lean` gives every scalar C value the Lean type `Int`.
This file defines what the generated code refers to:

* the wraps `u8 u16 u32 u64 i8 i16 i32 i64` (conversion to a C integer type), `cbool`, `b2i`;
* the bit operations `band bor bxor shl shr` on `Int`, *defined via `Nat`* — they agree with C
  only on non-negative operands (the translator records a side condition whenever it cannot see
  that an operand is non-negative);
* `CStr`, the abstract packed string (`rdsparser_string_t *`), and `CEvent`, one invoked callback;
* list access with `Int` indices (`getI getL getS listSet`) and the bounded loop `forRange`;
* C strings as byte lists and the trusted models `libc_strlen libc_isxdigit libc_strtol16` of the three
  libc functions `src/utils.c` calls;
* lemmas about these definitions, the toolkit of `RdsProofs/Trans*.lean`: wraps, bit fields as `/` and `%`, comparisons
  of casts of naturals (with a cast or with a numeral: the `_lit` forms), the loop shapes the translator emits. Some have
  no user there (the ranges `u16_range`, `i8_range`, `b2i_range`, the `_nonneg` facts of the bit operations, `cbool_eq`):
  they are what the next proof about a wrap or a C boolean starts from.

Core Lean only.
-/
namespace RDS.C

/-! ## conversions to C integer types -/

def u8 (x : Int) : Int := x % 256
def u16 (x : Int) : Int := x % 65536
def u32 (x : Int) : Int := x % 4294967296
def u64 (x : Int) : Int := x % 18446744073709551616
def i8 (x : Int) : Int := (x + 128) % 256 - 128
def i16 (x : Int) : Int := (x + 32768) % 65536 - 32768
def i32 (x : Int) : Int := (x + 2147483648) % 4294967296 - 2147483648
def i64 (x : Int) : Int := (x + 9223372036854775808) % 18446744073709551616 - 9223372036854775808

/-- `Bool` used as a C value -/
def b2i (b : Bool) : Int := if b then 1 else 0

/-- conversion to `_Bool` -/
def cbool (x : Int) : Int := if x ≠ 0 then 1 else 0

/-! ## bit operations (non-negative operands only) -/

def band (x y : Int) : Int := Int.ofNat (x.toNat &&& y.toNat)
def bor (x y : Int) : Int := Int.ofNat (x.toNat ||| y.toNat)
def bxor (x y : Int) : Int := Int.ofNat (x.toNat ^^^ y.toNat)
def shl (x n : Int) : Int := Int.ofNat (x.toNat <<< n.toNat)
def shr (x n : Int) : Int := Int.ofNat (x.toNat >>> n.toNat)

/-! ## the packed string and the callback log -/

/-- What an `rdsparser_string_t *` designates: the size slot, `size` characters, the
terminator slot and `size` per-character error levels. The four layout functions of
`string.c` are primitives on this type. -/
structure CStr where
  size : Int
  content : List Int
  term : Int
  errors : List Int
deriving DecidableEq, Repr

/-- a zero-filled string buffer of capacity `cap` (what `memset` leaves) -/
def CStr.zero (cap : Nat) : CStr := ⟨0, List.replicate cap 0, 0, List.replicate cap 0⟩

/-- the value an out-of-range `rds->rt[i]` reads in the translation (undefined in C) -/
def CStr.empty : CStr := ⟨0, [], 0, []⟩

instance : Inhabited CStr := ⟨CStr.empty⟩

/-- One invoked callback: name (`callback_` stripped), the non-pointer arguments in order
(a `const rdsparser_ct_t *` argument contributes its fields), and the state the callback sees.
`σ` is instantiated with the generated `C_librdsparser`. -/
structure CEvent (σ : Type) where
  name : String
  args : List Int
  snap : σ
deriving DecidableEq, Repr

/-! ## lists indexed by C integers -/

/-- `a[i]` for an array of scalars (0 when out of range: undefined in C) -/
def getI (l : List Int) (i : Int) : Int := l.getD i.toNat 0
/-- `a[i]` for an array of arrays -/
def getL (l : List (List Int)) (i : Int) : List Int := l.getD i.toNat []
/-- `a[i]` for an array of packed strings -/
def getS (l : List CStr) (i : Int) : CStr := l.getD i.toNat CStr.empty
/-- `a[i] = v` -/
def listSet {α : Type} (l : List α) (i : Int) (v : α) : List α := l.set i.toNat v

/-- `for (T i = 0; i < n; i++) s = body s i` -/
def forRange {σ : Type} (n : Int) (init : σ) (body : σ → Int → σ) : σ :=
  (List.range n.toNat).foldl (fun s i => body s (Int.ofNat i)) init

/-! ## C strings and the three libc functions `src/utils.c` calls — TRUSTED MODELS

A NUL-terminated C string seen through a `const char *` is the `List Int` of its bytes *as
`unsigned char` values* (each 1..255) from the pointer up to, not including, the terminating
NUL. The NUL is implicit: the byte at offset `length` is 0 (`getI` yields 0 there), offsets
beyond it are outside the object. Hence `p + k` (for `k ≤ strlen p`) is `List.drop k`, and
reading the plain (signed, x86-64) `char` at offset `i` is `i8 (getI s i)`.

`libc_strlen`, `libc_isxdigit` and `libc_strtol16` are plain Lean definitions written from the
text of ISO C11 (§7.24.6.3, §7.4.1.12, §7.22.1.4) / POSIX for the "C" locale and a 64-bit `long`.
They are *assumed* to describe the libc the library is linked against; nothing in this project
proves that. They are deliberately as lenient as the real functions: `libc_strtol16` skips
white space, takes a sign and a `0x` prefix and clamps — the refinement proof
(`RdsProofs/TransUtils.lean`) has to show that the caller never reaches those paths. -/

/-- `strlen(s)`: the number of bytes before the NUL. -/
def libc_strlen (s : List Int) : Int := Int.ofNat s.length

/-- The value of a hexadecimal digit `0-9 A-F a-f` ("C" locale), `none` for any other byte. -/
def libc_hexval (c : Int) : Option Int :=
  if 48 ≤ c ∧ c ≤ 57 then some (c - 48)
  else if 65 ≤ c ∧ c ≤ 70 then some (c - 55)
  else if 97 ≤ c ∧ c ≤ 102 then some (c - 87)
  else none

/-- `isxdigit(c)` for `c` an `unsigned char` value or `EOF`: non-zero iff `c` is one of
`0-9 A-F a-f`. C specifies only zero / non-zero; the translator accepts the result in
truth-value contexts only, so the particular non-zero value chosen here (1) is unobservable. -/
def libc_isxdigit (c : Int) : Int := if (libc_hexval c).isSome then 1 else 0

/-- `isspace(c)` in the "C" locale: space, `\t \n \v \f \r`. -/
def libc_isspace (c : Int) : Bool := c == 32 || (decide (9 ≤ c) && decide (c ≤ 13))

/-- The longest initial run of hexadecimal digits of `s`, accumulated onto `acc`:
(value, number of digits consumed so far `n` + those consumed here). -/
def libc_hexrun : List Int → Int → Nat → Int × Nat
  | [], acc, n => (acc, n)
  | c :: cs, acc, n =>
    match libc_hexval c with
    | some v => libc_hexrun cs (acc * 16 + v) (n + 1)
    | none => (acc, n)

/-- The length of the optional `0x` / `0X` prefix of `strtol(…, 16)`: 2 if the string starts with
`0x`/`0X` *and a hexadecimal digit follows*, else 0 (then the `0` alone is the number). -/
def libc_hexprefix : List Int → Nat
  | 48 :: x :: d :: _ => if (x == 120 || x == 88) && (libc_hexval d).isSome then 2 else 0
  | _ => 0

/-- `LONG_MAX` / `LONG_MIN` of a 64-bit `long` -/
def libc_LONG_MAX : Int := 9223372036854775807
def libc_LONG_MIN : Int := -9223372036854775808

/-- `strtol(s, &end, 16)`: the returned `long` and the offset of `end` from `s`.
The subject sequence is: any amount of white space (`isspace`), an optional `+` or `-`, an
optional `0x`/`0X` (taken only if a hexadecimal digit follows; otherwise the `0` alone is the
number), then the longest run of hexadecimal digits. If there is no digit, no conversion is
performed: the value is 0 and `end = s`. Otherwise the value is the (negated, if `-`) number,
clamped to `LONG_MAX` / `LONG_MIN` when it is out of range (then `errno = ERANGE`, not modelled),
and `end` points just past the last digit. -/
def libc_strtol16 (s : List Int) : Int × Nat :=
  let ws := (s.takeWhile libc_isspace).length
  let s1 := s.drop ws
  let neg := s1.head? == some 45                                   -- '-'
  let sg := if s1.head? == some 45 || s1.head? == some 43 then 1 else 0   -- '-' or '+'
  let s2 := s1.drop sg
  let px := libc_hexprefix s2
  let r := libc_hexrun (s2.drop px) 0 0
  if r.2 = 0 then (0, 0)
  else
    let v := if neg then -r.1 else r.1
    (if v > libc_LONG_MAX then libc_LONG_MAX else if v < libc_LONG_MIN then libc_LONG_MIN else v,
     ws + sg + px + r.2)

/-- The C string held by a `char` array (elements are `char` values, −128..127): the bytes, as
`unsigned char`, before the first NUL. (Undefined in C if the array contains no NUL: the
translator records that side condition.) -/
def cstrOfChars (a : List Int) : List Int := (a.takeWhile (fun c => c != 0)).map u8

/-! ## lemmas -/

theorem u8_of_range {x : Int} (h0 : 0 ≤ x) (h1 : x < 256) : u8 x = x :=
  Int.emod_eq_of_lt h0 h1
theorem u16_of_range {x : Int} (h0 : 0 ≤ x) (h1 : x < 65536) : u16 x = x :=
  Int.emod_eq_of_lt h0 h1
theorem u32_of_range {x : Int} (h0 : 0 ≤ x) (h1 : x < 4294967296) : u32 x = x :=
  Int.emod_eq_of_lt h0 h1
theorem i8_of_range {x : Int} (h0 : -128 ≤ x) (h1 : x < 128) : i8 x = x :=
  Int.sub_eq_iff_eq_add.2 (Int.emod_eq_of_lt (by omega) (by omega))
theorem i16_of_range {x : Int} (h0 : -32768 ≤ x) (h1 : x < 32768) : i16 x = x :=
  Int.sub_eq_iff_eq_add.2 (Int.emod_eq_of_lt (by omega) (by omega))
theorem i32_of_range {x : Int} (h0 : -2147483648 ≤ x) (h1 : x < 2147483648) : i32 x = x :=
  Int.sub_eq_iff_eq_add.2 (Int.emod_eq_of_lt (by omega) (by omega))

theorem u8_range (x : Int) : 0 ≤ u8 x ∧ u8 x < 256 :=
  ⟨Int.emod_nonneg x (by decide), Int.emod_lt_of_pos x (by decide)⟩
theorem u16_range (x : Int) : 0 ≤ u16 x ∧ u16 x < 65536 :=
  ⟨Int.emod_nonneg x (by decide), Int.emod_lt_of_pos x (by decide)⟩
theorem i8_range (x : Int) : -128 ≤ i8 x ∧ i8 x < 128 := by unfold i8; omega

@[simp] theorem u8_u8 (x : Int) : u8 (u8 x) = u8 x := Int.emod_emod_of_dvd x (Int.dvd_refl 256)
@[simp] theorem u8_u16 (x : Int) : u8 (u16 x) = u8 x := Int.emod_emod_of_dvd x (by decide)
@[simp] theorem u8_i8 (x : Int) : u8 (i8 x) = u8 x := by
  unfold u8 i8
  rw [Int.sub_emod, Int.emod_emod, ← Int.sub_emod, Int.add_sub_cancel]
@[simp] theorem i8_u8 (x : Int) : i8 (u8 x) = i8 x := by
  unfold u8 i8
  rw [Int.add_emod, Int.emod_emod, ← Int.add_emod]

@[simp] theorem b2i_true : b2i true = 1 := rfl
@[simp] theorem b2i_false : b2i false = 0 := rfl
theorem b2i_ne_zero (b : Bool) : (b2i b != 0) = b := by cases b <;> rfl
@[simp] theorem b2i_ne_zero' (b : Bool) : (b2i b ≠ 0) ↔ b = true := by cases b <;> simp [b2i]
@[simp] theorem b2i_eq_zero (b : Bool) : (b2i b = 0) ↔ b = false := by cases b <;> simp [b2i]
@[simp] theorem b2i_eq_one (b : Bool) : (b2i b = 1) ↔ b = true := by cases b <;> simp [b2i]
theorem b2i_range (b : Bool) : 0 ≤ b2i b ∧ b2i b ≤ 1 := by cases b <;> simp [b2i]
theorem cbool_eq (x : Int) : cbool x = b2i (x != 0) := by
  unfold cbool b2i; by_cases h : x = 0 <;> simp [h]

/-! ### bit operations on naturals: masks and shifts are `/` and `%` -/

theorem band_natCast (a b : Nat) : band (a : Int) (b : Int) = ((a &&& b : Nat) : Int) := by
  simp [band]
theorem bor_natCast (a b : Nat) : bor (a : Int) (b : Int) = ((a ||| b : Nat) : Int) := by
  simp [bor]
theorem shr_natCast (a n : Nat) : shr (a : Int) (n : Int) = ((a >>> n : Nat) : Int) := by
  simp [shr]
theorem shl_natCast (a n : Nat) : shl (a : Int) (n : Int) = ((a <<< n : Nat) : Int) := by
  simp [shl]

theorem band_nonneg (x y : Int) : 0 ≤ band x y := by unfold band; exact Int.natCast_nonneg _
theorem bor_nonneg (x y : Int) : 0 ≤ bor x y := by unfold bor; exact Int.natCast_nonneg _
theorem shr_nonneg (x n : Int) : 0 ≤ shr x n := by unfold shr; exact Int.natCast_nonneg _
theorem shl_nonneg (x n : Int) : 0 ≤ shl x n := by unfold shl; exact Int.natCast_nonneg _

theorem nat_and_lowmask (a k : Nat) : a &&& (2 ^ k - 1) = a % 2 ^ k := Nat.and_two_pow_sub_one_eq_mod a k

theorem nat_shr (a n : Nat) : a >>> n = a / 2 ^ n := Nat.shiftRight_eq_div_pow a n

theorem nat_shl (a n : Nat) : a <<< n = a * 2 ^ n := Nat.shiftLeft_eq a n

/-- `simp` does not see a numeral as a cast: hence the `_lit` forms beside the `_natCast` ones -/
theorem shr_lit (n m : Nat) : shr (n : Int) (no_index (OfNat.ofNat m)) = ((n / 2 ^ m : Nat) : Int) :=
  (shr_natCast n m).trans (congrArg _ (nat_shr n m))
theorem shl_lit (n m : Nat) : shl (n : Int) (no_index (OfNat.ofNat m)) = ((n * 2 ^ m : Nat) : Int) :=
  (shl_natCast n m).trans (congrArg _ (nat_shl n m))
theorem u8_nat (n : Nat) : u8 (n : Int) = ((n % 256 : Nat) : Int) := (Int.natCast_emod n 256).symm
theorem u32_natCast_of_lt {n : Nat} (h : n < 4294967296) : u32 (n : Int) = n :=
  u32_of_range (Int.natCast_nonneg n) (by omega)
theorem u8_natCast_of_lt {n : Nat} (h : n < 256) : u8 (n : Int) = n :=
  (u8_nat n).trans (congrArg _ (Nat.mod_eq_of_lt h))
theorem i8_natCast_of_lt {n : Nat} (h : n < 128) : i8 (n : Int) = n :=
  i8_of_range (Int.le_trans (by decide) (Int.natCast_nonneg n)) (by omega)
theorem u8_mul_natCast (k n : Nat) (h : k * n < 256) : u8 ((k : Int) * (n : Int)) = ((k * n : Nat) : Int) :=
  (congrArg u8 (Int.natCast_mul k n).symm).trans (u8_natCast_of_lt h)
theorem u8_add_natCast (m k : Nat) (h : m + k < 256) : u8 ((m : Int) + (k : Int)) = ((m + k : Nat) : Int) :=
  (congrArg u8 (Int.natCast_add m k).symm).trans (u8_natCast_of_lt h)

/-! ### bit fields: the `k` bits from bit `s` upwards are `/ 2^s % 2^k`

A getter of the C code is an instance: the elaborator unfolds the translated function and checks the
numerals (`992 = (2^5-1)·2^5`) by evaluation. -/

theorem nat_and_field (n s k : Nat) : n &&& (2 ^ k - 1) * 2 ^ s = n / 2 ^ s % 2 ^ k * 2 ^ s := by
  have hd : (n &&& (2 ^ k - 1) * 2 ^ s) / 2 ^ s = n / 2 ^ s % 2 ^ k := by
    rw [Nat.and_div_two_pow, Nat.mul_div_cancel _ (Nat.two_pow_pos s), nat_and_lowmask]
  have hm : (n &&& (2 ^ k - 1) * 2 ^ s) % 2 ^ s = 0 := by
    rw [Nat.and_mod_two_pow, Nat.mul_mod_left, Nat.and_zero]
  have := Nat.div_add_mod (n &&& (2 ^ k - 1) * 2 ^ s) (2 ^ s)
  rw [hd, hm, Nat.add_zero, Nat.mul_comm] at this
  exact this.symm

theorem band_field (n s k : Nat) :
    band (n : Int) (((2 ^ k - 1) * 2 ^ s : Nat) : Int) = ((n / 2 ^ s % 2 ^ k * 2 ^ s : Nat) : Int) := by
  rw [band_natCast, nat_and_field]

theorem band_low (n k : Nat) : band (n : Int) ((2 ^ k - 1 : Nat) : Int) = ((n % 2 ^ k : Nat) : Int) := by
  rw [band_natCast, nat_and_lowmask]

theorem shr_band_field (n s k : Nat) :
    shr (band (n : Int) (((2 ^ k - 1) * 2 ^ s : Nat) : Int)) (s : Int) = ((n / 2 ^ s % 2 ^ k : Nat) : Int) := by
  rw [band_natCast, shr_natCast, nat_shr, nat_and_field, Nat.mul_div_cancel _ (Nat.two_pow_pos s)]

theorem band_shr_field (n s k : Nat) :
    band (shr (n : Int) (s : Int)) ((2 ^ k - 1 : Nat) : Int) = ((n / 2 ^ s % 2 ^ k : Nat) : Int) := by
  rw [shr_natCast, band_natCast, nat_shr, nat_and_lowmask]

theorem wrap_mod_two_pow (m k w : Nat) (h : k ≤ w) :
    ((m % 2 ^ k : Nat) : Int) % ((2 ^ w : Nat) : Int) = ((m % 2 ^ k : Nat) : Int) := by
  rw [← Int.natCast_emod]
  exact congrArg _ (Nat.mod_eq_of_lt
    (Nat.lt_of_lt_of_le (Nat.mod_lt _ (Nat.two_pow_pos k)) (Nat.pow_le_pow_right (by decide) h)))

/-- `% 2^w` is what the conversions unfold to: `u8 x` to `x % 2^8`, `u32 x` to `x % 2^32` -/
theorem wrap_shr_band (n s k w : Nat) (h : k ≤ w) :
    shr (band (n : Int) (((2 ^ k - 1) * 2 ^ s : Nat) : Int)) (s : Int) % ((2 ^ w : Nat) : Int) =
      ((n / 2 ^ s % 2 ^ k : Nat) : Int) := by
  rw [shr_band_field]; exact wrap_mod_two_pow _ k w h

theorem wrap_band_shr (n s k w : Nat) (h : k ≤ w) :
    band (shr (n : Int) (s : Int)) ((2 ^ k - 1 : Nat) : Int) % ((2 ^ w : Nat) : Int) =
      ((n / 2 ^ s % 2 ^ k : Nat) : Int) := by
  rw [band_shr_field]; exact wrap_mod_two_pow _ k w h

theorem wrap_band_low (n k w : Nat) (h : k ≤ w) :
    band (n : Int) ((2 ^ k - 1 : Nat) : Int) % ((2 ^ w : Nat) : Int) = ((n % 2 ^ k : Nat) : Int) := by
  rw [band_low]; exact wrap_mod_two_pow _ k w h

theorem b2i_shr_band (n s : Nat) :
    b2i (shr (band (n : Int) (((2 ^ 1 - 1) * 2 ^ s : Nat) : Int)) (s : Int) != 0) = ((n / 2 ^ s % 2 ^ 1 : Nat) : Int) := by
  rw [shr_band_field]
  rcases Nat.mod_two_eq_zero_or_one (n / 2 ^ s) with h | h <;> rw [Nat.pow_one, h] <;> rfl

/-- a mask or a bit that is a natural, against any `Int` -/
theorem band_natR (x : Int) (n : Nat) : band x (n : Int) = ((x.toNat &&& n : Nat) : Int) := by
  simp [band]
theorem bor_natR (x : Int) (n : Nat) : bor x (n : Int) = ((x.toNat ||| n : Nat) : Int) := by
  simp [bor]

theorem and_two_pow_ne_zero (x i : Nat) : (x &&& 2 ^ i != 0) = x.testBit i := by
  have h := nat_and_field x i 1
  rw [Nat.pow_one, show (2 - 1) * 2 ^ i = 2 ^ i from Nat.one_mul _] at h
  rw [h, Nat.testBit_eq_decide_div_mod_eq]
  rcases Nat.mod_two_eq_zero_or_one (x / 2 ^ i) with e | e <;> simp [e]

theorem nat_or_shl (x y s : Nat) (h : y < 2 ^ s) : x * 2 ^ s ||| y = x * 2 ^ s + y := by
  rw [Nat.mul_comm, Nat.two_pow_add_eq_or_of_lt h]

/-- `changed |= x` on two C booleans -/
theorem bor_b2i (a b : Bool) : bor (b2i a) (b2i b) = b2i (a || b) := by cases a <;> cases b <;> rfl

theorem natCast_beq (m n : Nat) : ((m : Int) == (n : Int)) = decide (m = n) := by
  rw [Bool.eq_iff_iff, beq_iff_eq, decide_eq_true_iff, Int.natCast_inj]
theorem natCast_bne_zero (m : Nat) : ((m : Int) != 0) = (m != 0) := by
  rw [Bool.eq_iff_iff, bne_iff_ne, bne_iff_ne, Ne, Ne, Int.natCast_eq_zero]
theorem natCast_decide_le (m n : Nat) : decide ((m : Int) ≤ (n : Int)) = decide (m ≤ n) :=
  decide_eq_decide.2 Int.ofNat_le
theorem natCast_decide_lt (m n : Nat) : decide ((m : Int) < (n : Int)) = decide (m < n) :=
  decide_eq_decide.2 Int.ofNat_lt

/-- the same against a numeral, which is a cast only up to unfolding (see `shr_lit`) -/
theorem natCast_beq_lit (m n : Nat) : ((m : Int) == no_index (OfNat.ofNat n)) = decide (m = OfNat.ofNat n) :=
  natCast_beq m n
theorem natCast_decide_lt_lit (m n : Nat) :
    decide ((m : Int) < no_index (OfNat.ofNat n)) = decide (m < OfNat.ofNat n) :=
  natCast_decide_lt m n
theorem lit_decide_le_natCast (n m : Nat) :
    decide ((no_index (OfNat.ofNat n) : Int) ≤ (m : Int)) = decide (OfNat.ofNat n ≤ m) :=
  natCast_decide_le n m

/-! C's `/` and `%` are translated to `Int.tdiv` and `Int.tmod`. -/

theorem tdiv_of_nonneg {a : Int} (b : Int) (h : 0 ≤ a) : Int.tdiv a b = a / b :=
  Int.tdiv_eq_ediv_of_nonneg h
theorem tmod_of_nonneg {a : Int} (b : Int) (h : 0 ≤ a) : Int.tmod a b = a % b :=
  Int.tmod_eq_emod_of_nonneg h

@[simp] theorem getI_natCast (l : List Int) (n : Nat) : getI l (n : Int) = l.getD n 0 := by
  simp [getI]
@[simp] theorem listSet_natCast {α : Type} (l : List α) (n : Nat) (v : α) :
    listSet l (n : Int) v = l.set n v := by simp [listSet]
@[simp] theorem length_listSet {α : Type} (l : List α) (i : Int) (v : α) :
    (listSet l i v).length = l.length := by simp [listSet]

theorem forall_mem_set {α : Type} {P : α → Prop} {l : List α} (h : ∀ x ∈ l, P x) (i : Nat) {v : α} (hv : P v) :
    ∀ x ∈ l.set i v, P x :=
  fun x hx => (List.mem_or_eq_of_mem_set hx).elim (h x) (· ▸ hv)

theorem forall_getD {α : Type} {P : α → Prop} {l : List α} (h : ∀ x ∈ l, P x) {d : α} (hd : P d) (i : Nat) :
    P (l.getD i d) := by
  rw [List.getD_eq_getElem?_getD]
  cases e : l[i]? with
  | none => exact hd
  | some x => exact h x (List.mem_of_getElem? e)

theorem getI_lit (l : List Int) (m : Nat) : getI l (no_index (OfNat.ofNat m)) = l.getD m 0 := getI_natCast l m
theorem listSet_lit {α : Type} (l : List α) (m : Nat) (v : α) :
    listSet l (no_index (OfNat.ofNat m)) v = l.set m v :=
  listSet_natCast l m v

/-- one arm is enough: the match compiler refutes the other shapes from the length -/
theorem len2 {α : Type} : ∀ (l : List α), l.length = 2 → ∃ a b, l = [a, b]
  | [a, b], _ => ⟨a, b, rfl⟩
theorem len3 {α : Type} : ∀ (l : List α), l.length = 3 → ∃ a b c, l = [a, b, c]
  | [a, b, c], _ => ⟨a, b, c, rfl⟩
theorem len4 {α : Type} : ∀ (l : List α), l.length = 4 → ∃ a b c d, l = [a, b, c, d]
  | [a, b, c, d], _ => ⟨a, b, c, d, rfl⟩

theorem getS_listSet_two (l : List CStr) (hl : l.length = 2) (s : CStr) :
    getS (listSet l 0 s) 0 = s ∧ getS (listSet l 0 s) 1 = getS l 1 ∧
    getS (listSet l 1 s) 0 = getS l 0 ∧ getS (listSet l 1 s) 1 = s := by
  obtain ⟨a, b, rfl⟩ := len2 l hl
  exact ⟨rfl, rfl, rfl, rfl⟩

theorem forRange_eq {σ : Type} (n : Nat) (init : σ) (body : σ → Int → σ) :
    forRange (n : Int) init body =
      (List.range n).foldl (fun s (i : Nat) => body s (i : Int)) init := by
  simp [forRange]

theorem forRange_lit {σ : Type} (n : Nat) (init : σ) (body : σ → Int → σ) :
    forRange (no_index (OfNat.ofNat n)) init body =
      (List.range (OfNat.ofNat n)).foldl (fun s (i : Nat) => body s (i : Int)) init :=
  forRange_eq n init body

theorem forRange_induct {σ : Type} (n : Nat) (f : σ → Int → σ) (init : σ) (P : Nat → σ → Prop) (h0 : P 0 init)
    (hs : ∀ k, k < n → ∀ a, P k a → P (k + 1) (f a (k : Int))) : P n (forRange (n : Int) init f) := by
  rw [forRange_eq]
  induction n with
  | zero => exact h0
  | succ n ih =>
    rw [List.range_succ, List.foldl_append]
    exact hs n (Nat.lt_succ_self n) _ (ih fun k hk => hs k (Nat.lt_succ_of_lt hk))

/-- `for (i = 0; i < n; i++) if (p i) return f i;` is `find?` over the indices -/
theorem forRange_find {α : Type} (n : Nat) (p : Int → Bool) (f : Int → α) :
    forRange (n : Int) (none : Option α) (fun acc i => if acc.isSome then acc else if p i then some (f i) else none) =
      ((List.range n).find? (fun (i : Nat) => p (i : Int))).map (fun (i : Nat) => f (i : Int)) := by
  rw [forRange_eq]
  induction n with
  | zero => rfl
  | succ n ih =>
    rw [List.range_succ, List.foldl_append, ih, List.find?_append]
    cases (List.range n).find? (fun (i : Nat) => p (i : Int)) with
    | some j => rfl
    | none => cases h : p (n : Int) <;> simp [h]

theorem find?_range_length {β : Type} (l : List β) (q : β → Bool) (p : Nat → Bool)
    (hp : ∀ i (h : i < l.length), p i = q l[i]) : (List.range l.length).find? p = l.findIdx? q := by
  induction l generalizing p with
  | nil => rfl
  | cons x l ih =>
    rw [List.length_cons, List.range_succ_eq_map, List.find?_cons, List.findIdx?_cons,
      hp 0 (Nat.zero_lt_succ _), List.getElem_cons_zero]
    cases q x
    · simp only [List.find?_map, Bool.false_eq_true, if_false]
      rw [← ih (p ∘ Nat.succ) fun i h => hp (i + 1) (Nat.succ_lt_succ h)]
    · rfl

/-- `for (i = 0; i < k; i++) a[i] = v;` -/
theorem foldl_range_set {α : Type} (v : α) (l : List α) (k : Nat) (hk : k ≤ l.length) :
    (List.range k).foldl (fun (l : List α) (i : Nat) => l.set i v) l = List.replicate k v ++ l.drop k := by
  induction k with
  | zero => simp
  | succ k ih =>
    rw [List.range_succ, List.foldl_append, ih (by omega)]
    simp only [List.foldl_cons, List.foldl_nil]
    rw [List.set_append_right _ _ (by simp), List.length_replicate, Nat.sub_self,
      List.drop_eq_getElem_cons (by omega : k < l.length), List.set_cons_zero, List.replicate_succ',
      List.append_assoc]
    rfl

theorem foldl_range_set_all {α : Type} (v : α) (l : List α) (n : Nat) (h : l.length = n) :
    (List.range n).foldl (fun (l : List α) (i : Nat) => l.set i v) l = List.replicate n v := by
  subst h
  rw [foldl_range_set v l l.length (Nat.le_refl _)]; simp

theorem libc_hexval_isSome {c : Int} (h : (libc_hexval c).isSome) :
    libc_isspace c = false ∧ c ≠ 45 ∧ c ≠ 43 ∧ c ≠ 120 ∧ c ≠ 88 := by
  have hr : (48 ≤ c ∧ c ≤ 57) ∨ (65 ≤ c ∧ c ≤ 70) ∨ (97 ≤ c ∧ c ≤ 102) := by
    refine Decidable.byContradiction fun hn => ?_
    rw [not_or, not_or] at hn
    rw [libc_hexval, if_neg hn.1, if_neg hn.2.1, if_neg hn.2.2] at h
    cases h
  refine ⟨?_, by omega⟩
  unfold libc_isspace
  rw [Bool.or_eq_false_iff, beq_eq_false_iff_ne, Bool.and_eq_false_iff, decide_eq_false_iff_not, decide_eq_false_iff_not]
  omega

theorem libc_hexprefix_digits (s : List Int) (h : ∀ c ∈ s, (libc_hexval c).isSome) : libc_hexprefix s = 0 := by
  unfold libc_hexprefix
  split
  · rename_i x d t
    obtain ⟨-, -, -, h120, h88⟩ := libc_hexval_isSome (h x (by simp))
    rw [beq_eq_false_iff_ne.2 h120, beq_eq_false_iff_ne.2 h88]; rfl
  · rfl

/-- on a string of hexadecimal digits whose value fits a `long`, `strtol` takes none of its lenient paths -/
theorem libc_strtol16_digits (s : List Int) (h : ∀ c ∈ s, (libc_hexval c).isSome) (v : Int)
    (hr : libc_hexrun s 0 0 = (v, s.length)) (h0 : 0 ≤ v) (h1 : v ≤ libc_LONG_MAX) :
    libc_strtol16 s = (v, s.length) := by
  cases s with
  | nil => rw [← hr]; rfl
  | cons c t =>
    obtain ⟨hsp, h45, h43, -⟩ := libc_hexval_isSome (h c List.mem_cons_self)
    have e45 : (some c == some (45 : Int)) = false := beq_eq_false_iff_ne.2 fun e => h45 (Option.some.inj e)
    have e43 : (some c == some (43 : Int)) = false := beq_eq_false_iff_ne.2 fun e => h43 (Option.some.inj e)
    have g2 : ¬ v < libc_LONG_MIN := by unfold libc_LONG_MIN; omega
    unfold libc_strtol16
    simp only [List.takeWhile_cons, hsp, List.length_nil, List.drop_zero, List.head?_cons, e45, e43, Bool.or_self,
      Bool.false_eq_true, if_false, libc_hexprefix_digits (c :: t) h, hr, List.length_cons, Nat.add_one_ne_zero,
      Int.not_lt.2 h1, g2, Nat.zero_add]
end RDS.C
