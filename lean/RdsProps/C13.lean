import RdsProofs.Reach
import RdsProofs.C13Proofs
/-!
# Property C13 — reset forgets all history and keeps all settings

`C13_clear_state`: for every well-formed (hence every reachable) state, `rdsparser_clear` yields exactly the freshly
initialised state with the old settings, callbacks and user data — a *state* equality including the hidden candidates, the AF
candidates and the last RT flag, so nothing of the earlier history can leak. `C13_continuation`: every continuation after the
reset behaves as on a fresh parser with those settings; `C13_reachable`: both for the state after any history.
`C13` = `chkC13` for every history (what the getters show right after clear / init).
-/
-- THEOREM: RDS.C13
-- THEOREM: RDS.C13_clear_state
-- THEOREM: RDS.C13_continuation
-- THEOREM: RDS.C13_reachable
namespace RDS

theorem C13 (tb : Tabs) (h : EccOk tb) (ops : List Op) (op : Op) :
    chkC13 (recOf tb.cfg (run tb.cfg ops) op) = true :=
  chkC13_ok tb _ op (reach tb h ops).2

theorem C13_reachable (tb : Tabs) (h : EccOk tb) (pre post : List Op) :
    let s := run tb.cfg pre
    clearState s = { initState with set := s.set, cbs := s.cbs, ud := s.ud } ∧
    trace tb.cfg (step tb.cfg s .clear).1 post =
      trace tb.cfg { initState with set := s.set, cbs := s.cbs, ud := s.ud } post :=
  ⟨C13_clear_state tb _ (reach tb h pre).2, C13_continuation tb _ (reach tb h pre).2 post⟩

end RDS
