import RdsProofs.Reach
import RdsProofs.WFProofs
import RdsProofs.C16Received
/-!
# Property C16 — text buffers are always well-formed, printable and terminated

`C16` = `chkC16` for every history: after every API call each of the four texts has its fixed capacity, terminator 0
directly after it, levels ≤ 10, a never-received cell (level 10) holds a space, every other cell is the end-of-text
marker or the image of a byte ≥ 0x20 under the character conversion, availability = "some cell has level ≠ 10",
length = index of the first end-of-text marker or else the capacity; and right after `init` / `clear` every cell is a
never-received one. `wf_run` is the underlying invariant `WF` for every reachable state.
`C16_level_received*`, `C16_available_received`: a cell's level differs from 10 iff some call after the last reset of
its text was an accepted reception addressed to it.
-/
-- THEOREM: RDS.C16
-- THEOREM: RDS.wf_run
-- THEOREM: RDS.C16_level_received
-- THEOREM: RDS.C16_level_received_exists
-- THEOREM: RDS.C16_available_received
namespace RDS

/-- C16 for every history and every next call -/
theorem C16 (tb : Tabs) (h : EccOk tb) (ops : List Op) (op : Op) :
    chkC16 tb.cfg (recOf tb.cfg (run tb.cfg ops) op) = true :=
  chkC16_ok tb _ op (wf_step tb h _ op (reach tb h ops).2)

end RDS
