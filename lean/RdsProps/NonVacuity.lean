import RdsProps.C20
/-!
# Non-vacuity: concrete, non-trivial instances of the hypotheses and of the guarded parts of the predicates

An implication no reachable state satisfies checks fine and means nothing. Each `example` below exhibits a concrete
history on which the hypothesis of a property theorem holds and its conclusion says something non-trivial
(all are closed terms evaluated by the kernel).
-/
namespace RDS

/-- a toy configuration (identity charset, ECC table constantly 7) satisfying `EccOk` -/
def toyCfg : Cfg := ⟨true, fun b => b, fun _ _ => 7⟩
def toyTabs : Tabs := ⟨toyCfg, 10⟩
example : EccOk toyTabs := ⟨by decide, fun _ _ => by show (7 : Nat) < 10; omega⟩

def gA : Group := ⟨0x1234, 0x0408 ||| (5 <<< 5), 0x5A01, 0x4142, 0, 0, 0, 0⟩   -- 0A, PTY 5, TP, MS
def gB : Group := ⟨0x5678, 0x0000 ||| (9 <<< 5), 0x5A01, 0x4142, 0, 0, 0, 0⟩
def gBadB : Group := ⟨0x9999, 0xF000, 0, 0, 0, 3, 0, 0⟩                          -- block B uncorrectable

/-- C01: the guard `clean ∧ ¬ext` of `chkC01` holds on a history with receptions, and the abstract fields are not
"unknown" there: PI = 0x1234, PTY = 5, TP = 1, MS = 1 after one group; an uncorrectable block B changes nothing -/
example : (monAfter toyCfg [.parse gA, .parse gBadB]).clean = true ∧ (monAfter toyCfg [.parse gA, .parse gBadB]).ext = false ∧
    (run toyCfg [.parse gA, .parse gBadB]).used.pi = 0x9999 ∧ (run toyCfg [.parse gA, .parse gBadB]).used.pty = 5 ∧
    (run toyCfg [.parse gA, .parse gBadB]).used.tp = 1 ∧ (run toyCfg [.parse gA, .parse gBadB]).used.ms = 1 := by
  decide +kernel

example : NormalMode [.parse gA, .setExt false, .clear, .parse gB] := by
  intro op h; simp at h; rcases h with h | h | h | h <;> subst h <;> simp

/-- C03: two different groups that `sameUsed` relates (block B flagged uncorrectable: B, C and D are unused) -/
example : sameUsed Settings.init gBadB { gBadB with b := 0x0ABC, c := 77, d := 88 } = true ∧
    gBadB ≠ { gBadB with b := 0x0ABC, c := 77, d := 88 } := by decide

/-- C09: `ExtendedMode` is satisfiable, and on the alternation A,B,A,B nothing is ever accepted, while A,A is -/
example : ExtendedMode [.setExt true, .parse gA, .parse gB, .parse gA, .parse gB] :=
  ⟨_, rfl, by intro op h; simp at h; rcases h with h | h | h | h <;> subst h <;> simp⟩
example : (run toyCfg [.setExt true, .parse gA, .parse gB, .parse gA, .parse gB]).used.pi = -1 ∧
    (run toyCfg [.setExt true, .parse gA, .parse gB, .parse gA, .parse gB]).used.pty = -1 ∧
    (run toyCfg [.setExt true, .parse gA, .parse gA]).used.pi = 0x1234 ∧
    (monAfter toyCfg [.setExt true, .parse gA, .parse gB]).clean = true ∧
    (monAfter toyCfg [.setExt true, .parse gA, .parse gB]).ext = true := by
  decide +kernel

/-- C10: AF code 0x5A (= 90: 96.5 MHz) is listed after one reception in normal mode, only after two under the check -/
example : (run toyCfg [.parse gA]).used.af.getD 0x5A false = true ∧
    (run toyCfg [.setExt true, .parse gA]).used.af.getD 0x5A false = false ∧
    (run toyCfg [.setExt true, .parse gA, .parse gB]).used.af.getD 0x5A false = true := by
  decide +kernel

/-- C12: a concrete report — MJD 60275, 23:45 UTC, offset +1 h (2 half hours) is 2023-11-28 00:45 -/
example : ctInit 60275 23 45 2 = some ⟨2023, 11, 28, 0, 45, 60⟩ := by decide +kernel

/-- C13: a state with hidden history whose `clear` is the fresh state -/
example : clearState (run toyCfg [.setExt true, .parse gA, .setCorr .rt .info 2]) =
    { initState with set := (run toyCfg [.setExt true, .parse gA, .setCorr .rt .info 2]).set } := by
  decide +kernel

/-- C14: an accepted and a rejected string ("1234ABCD5678ef9012" and one with a leading blank) -/
example : (utilsConvert [49,50,51,52,65,66,67,68,53,54,55,56,101,102,57,48,49,50]).isSome = true ∧
    utilsConvert [32,50,51,52,65,66,67,68,53,54,55,56,101,102,57,48] = none := by decide +kernel

/-- C20: `asciiOnly` is true for ordinary text groups and false for one presenting a byte ≥ 0x7F -/
example : (Op.parse gA).asciiOnly = true ∧ (Op.parse { gA with d := 0x8041 }).asciiOnly = false := by decide

/-! ## further clauses: each holds on the model's own record and FAILS on a doctored one
(the record of the same call with the "after" observation replaced by the "before" one — the call ignored, or
with its events dropped), so none of them is satisfied trivially -/

/-- a 2A group, flag B, block B corrected (level 1): the first type-2 group after a reset, with the RT info threshold at 1 -/
def gNoisyB : Group := ⟨0x1234, 0x2010, 0x4142, 0x4344, 0, 1, 0, 0⟩
def histRt : List Op := [.setCorr .rt .info 1]
/-- the record of `op` after `ops`, and the same record with the call's effect dropped -/
def recAfter (ops : List Op) (op : Op) : StepRec := recOf toyCfg (run toyCfg ops) op
def ignored (r : StepRec) : StepRec := { r with after := r.before, evs := [] }
def silent (r : StepRec) : StepRec := { r with evs := [] }

/-- C08 first flag: the noisy first group IS decoded; a library that drops it as a bit-flip fails the clause -/
example : chkC08first toyCfg (monAfter toyCfg histRt) (recAfter histRt (.parse gNoisyB)) = true ∧
    chkC08first toyCfg (monAfter toyCfg histRt) (ignored (recAfter histRt (.parse gNoisyB))) = false := by
  decide +kernel

/-- C07 convergence: with PS progressive, an error-free reception over a corrected cell is taken; ignoring it fails -/
def histProg : List Op := [.setProg .ps true, .setCorr .ps .data 2, .parse ⟨0x1234, 0x0408, 0x5A01, 0x5859, 0, 0, 0, 2⟩]
example : chkC07conv toyCfg (monAfter toyCfg histProg) (recAfter histProg (.parse gA)) = true ∧
    chkC07conv toyCfg (monAfter toyCfg histProg) (ignored (recAfter histProg (.parse gA))) = false := by
  decide +kernel

/-- "received is shown" after the extended check was on and has been switched off: PI/PTY/TP/TA/MS, the AF pair, the ECC -/
def histMixed : List Op := [.setExt true, .parse gB, .setExt false]
def g1A : Group := ⟨0x1234, 0x1000, 0x00E0, 0, 0, 0, 0, 0⟩
example : chkNormalScalars (recAfter histMixed (.parse gA)) = true ∧ chkNormalScalars (ignored (recAfter histMixed (.parse gA))) = false ∧
    chkNormalAf (recAfter histMixed (.parse gA)) = true ∧ chkNormalAf (ignored (recAfter histMixed (.parse gA))) = false ∧
    chkNormalEcc (recAfter histMixed (.parse g1A)) = true ∧ chkNormalEcc (ignored (recAfter histMixed (.parse g1A))) = false := by
  decide +kernel

/-- C10 callback clause: with the AF callback registered the two additions are reported; dropping the reports fails -/
def histReg : List Op := [.register .af true]
example : chkC10cb (monAfter toyCfg histReg) (recAfter histReg (.parse gA)) = true ∧
    chkC10cb (monAfter toyCfg histReg) (silent (recAfter histReg (.parse gA))) = false := by
  decide +kernel

/-- C08 callback clause: A (text), B, back to A with nothing acceptable: the emptied buffer is reported once; silence fails -/
def histSwitch : List Op := [.register .rt true, .parse ⟨0x1234, 0x2000, 0x4142, 0x4344, 0, 0, 0, 0⟩,
  .parse ⟨0x1234, 0x2010, 0x4142, 0x4344, 0, 0, 0, 0⟩]
def gBackA : Group := ⟨0x1234, 0x2001, 0x4142, 0x4344, 0, 0, 3, 3⟩
example : chkC08cb (monAfter toyCfg histSwitch) (recAfter histSwitch (.parse gBackA)) = true ∧
    chkC08cb (monAfter toyCfg histSwitch) (silent (recAfter histSwitch (.parse gBackA))) = false := by
  decide +kernel

/-- C14 round trip: the hypotheses of `C14_string_reaches` are met by an ordinary group -/
example : gNoisyB.a < 65536 ∧ gNoisyB.b < 65536 ∧ gNoisyB.c < 65536 ∧ gNoisyB.d < 65536 ∧ gNoisyB.ea < 4 ∧ gNoisyB.eb < 4 ∧
    gNoisyB.ec < 4 ∧ gNoisyB.ed < 4 := by decide

end RDS
