import RdsProofs.Reach
import RdsProofs.RefineProofs
/-!
# Property C06 — text acceptance thresholds and weighted per-character error level

`C06` = `chkC06` for every history: unless the group is ignored for RT (`rtNoisy`), each addressed cell is the closed
form `cellSpec` without the progressive rule (taken iff eB ≤ info ∧ eX ≤ data ∧ not a control code ∧ end-of-text/≥0x7F
only error-free ∧ not identical data with an equal-or-worse level; level 0 when both error-free, else
2·eB + 3·eX − 1), or, in a text under progressive correction, the old cell (C07).
`updateSingle_cellSpec` is the closed form for one byte through `updateSingle`.
`C06_weight`: accepted levels stay ≤ 9 and data errors outweigh info errors.
-/
-- THEOREM: RDS.C06
-- THEOREM: RDS.updateSingle_cellSpec
-- THEOREM: RDS.C06_weight
-- THEOREM: RDS.C06_special_error_free
namespace RDS

/-- C06 for every history and every next call -/
theorem C06 (tb : Tabs) (h : EccOk tb) (ops : List Op) (op : Op) :
    chkC06 tb.cfg (monAfter tb.cfg ops) (recOf tb.cfg (run tb.cfg ops) op) = true :=
  chkC06_ok tb.cfg _ _ op (linkL_run tb.cfg ops).link.lastFlag

/-- the weighted level is at most 9 for accepted error levels (≤ 2), and of two error levels the larger one weighs
more in the data block than in block B -/
theorem C06_weight (x y : Nat) (hx : x ≤ 2) (hy : y ≤ 2) :
    calcError x y ≤ 9 ∧ (x < y → calcError y x < calcError x y) := by
  refine ⟨calcError_le hx hy, fun hxy => ?_⟩
  rw [calcError_eq_sub, calcError_eq_sub]
  omega

/-- characters ≥ 0x7F and the end-of-text marker are taken only from error-free blocks -/
theorem C06_special_error_free (cfg : Cfg) (info data : Nat) (prog : Bool) (old : Cell) (b eb ed : Nat)
    (hb : b = 0x0D ∨ 0x7F ≤ b) (he : ¬ (eb = 0 ∧ ed = 0)) :
    cellSpec cfg info data prog old b eb ed = old := by
  rcases cellSpec_cases cfg info data prog old b eb ed with h | ⟨_, _, _, _, _, h, _⟩
  · exact h
  · exact absurd (h hb) he

end RDS
