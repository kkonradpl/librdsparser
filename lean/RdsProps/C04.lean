import RdsProofs.Reach
import RdsProofs.C04Proofs
/-!
# Property C04 — a callback fires exactly when its field changes, and sees the new value

`C04` = `chkC04` for every history and every next call: during a delivered group, for every registered callback the number
of invocations is 1 if that field's getter result differs after the call from before it and 0 otherwise (RT: counted per
flag, and 1 for the addressed flag also when an A/B switch discards the previous text; no RT callback with a flag other
than 0 or 1; AF: the multiset of reported frequencies is exactly 87500 + 100·code for the codes newly listed, at most
two), and every event shows its own field at its final value.
`C04_redeliver` = `chkC04redeliver` for every history, every call `op0` and the call `op` right after it: re-delivering
the same group immediately (normal mode) notifies nothing but clock time and changes no getter.
Holds for every setting of extended check / thresholds / progressive mode (they are part of the arbitrary history).
-/
-- THEOREM: RDS.C04
-- THEOREM: RDS.C04_redeliver
namespace RDS

theorem C04 (tb : Tabs) (h : EccOk tb) (ops : List Op) (op : Op) :
    chkC04 (monAfter tb.cfg ops) (recOf tb.cfg (run tb.cfg ops) op) = true :=
  chkC04_ok tb.cfg _ _ op (linkL_run tb.cfg ops).link (linkL_run tb.cfg ops).usedLen

theorem C04_redeliver (tb : Tabs) (h : EccOk tb) (ops : List Op) (op0 op : Op) :
    chkC04redeliver (monAfter tb.cfg (ops ++ [op0])) (recOf tb.cfg (run tb.cfg (ops ++ [op0])) op) = true := by
  rw [monAfter_snoc, run_snoc]
  exact chkC04redeliver_ok tb.cfg _ _ op0 op (linkL_run tb.cfg ops).link (linkL_run tb.cfg ops).usedLen

end RDS
