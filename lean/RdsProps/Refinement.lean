import RdsProofs.TransGroups
import RdsProofs.TransTables
import RdsProps.C01
import RdsProps.C03
import RdsProps.C02
import RdsProps.C04
import RdsProps.C06
import RdsProps.C07
import RdsProps.C08
import RdsProps.C09
import RdsProps.C10
import RdsProps.C11
import RdsProps.C12
import RdsProps.C13
import RdsProps.C14
import RdsProps.C16
import RdsProps.C17
/-!
# T0 — the C source, as translated by `tools/c2lean.py`, refines the model; the properties hold of the translated source

`RdsC/Translated.lean` is regenerated from `/repo/src/*.c` on every run. The theorems listed here say that every
translated function, read through the abstraction `abs` (what the getters return), is the corresponding function of the
model, for arguments in the C API's ranges; `crun_refines` lifts this to every history of translated API calls.
`rdsparser_parse_string` is included: `rdsparser_utils_convert`, which calls the trusted libc models `libc_strlen`,
`libc_isxdigit`, `libc_strtol16` of `RdsC/Prelude.lean`, is the strict `utilsConvert` (`utils_convert_refines`).
The `*_source` corollaries restate the history theorems for the translated source: the observations they speak about
are those of the C state `crun u ops`, under the configuration `cfgC u` that the source text itself defines.
-/
-- THEOREM: RDS.C.crun_refines
-- THEOREM: RDS.C.cstep_refines
-- THEOREM: RDS.C.process_refines
-- THEOREM: RDS.C.parse_string_refines
-- THEOREM: RDS.C.utils_convert_refines
-- THEOREM: RDS.C.ecc_lookup_refines
-- THEOREM: RDS.C.update_single_refines
-- THEOREM: RDS.C.parser_update_string_refines
-- THEOREM: RDS.C.string_clear_refines
-- THEOREM: RDS.C.string_get_available_refines
-- THEOREM: RDS.C.string_get_length_refines
-- THEOREM: RDS.C.set_field_refines
-- THEOREM: RDS.C.add_af_refines
-- THEOREM: RDS.C.tb_init_refines
-- THEOREM: RDS.C.tb_clear_refines
-- THEOREM: RDS.C.set_extended_check_refines
-- THEOREM: RDS.C.set_text_correction_refines
-- THEOREM: RDS.C.set_text_progressive_refines
-- THEOREM: RDS.C.set_user_data_refines
-- THEOREM: RDS.C.register_refines
-- THEOREM: RDS.C.TransBits.ct_init_eq
-- THEOREM: RDS.C.cfgC_g0_generated
-- THEOREM: RDS.C.cfgC_ecc_generated
-- THEOREM: RDS.C.sourceEccOk
-- THEOREM: RDS.C.tt_ecc_range
-- THEOREM: RDS.C.recOfC_eq
-- THEOREM: RDS.C.recOfC_run
-- THEOREM: RDS.C.C01_source
-- THEOREM: RDS.C.C04_source
-- THEOREM: RDS.C.C09_source
-- THEOREM: RDS.C.C16_source
-- THEOREM: RDS.C.C02_source
-- THEOREM: RDS.C.C06_source
-- THEOREM: RDS.C.C07_source
-- THEOREM: RDS.C.C08_source
-- THEOREM: RDS.C.C10_source
-- THEOREM: RDS.C.C11_source
-- THEOREM: RDS.C.C12_source
-- THEOREM: RDS.C.C13_source
-- THEOREM: RDS.C.C17_source
-- THEOREM: RDS.C.C14_source
-- THEOREM: RDS.C.C03_source
namespace RDS.C
open RDS

/-- the tables of the source text, with the number of country enumerators (read out of the compiled library) as bound -/
def sourceTabs (u : Bool) : Tabs := ⟨cfgC u, Generated.countryCount⟩

/-- the source's ECC look-up meets the range contract the history theorems assume: every value it can return is a valid
country enumerator (`tt_ecc_range`, decided over the four LUT initializers of the source text) -/
theorem sourceEccOk (u : Bool) : EccOk (sourceTabs u) := by
  refine ⟨by show 0 < Generated.countryCount; decide, ?_⟩
  intro n e
  have h := tt_ecc_range ((n : Int) * 4096) (e : Int)
  show (c_rdsparser_ecc_lookup ((n : Int) * 4096) (e : Int)).toNat < Generated.countryCount
  omega

/-- the value the C call returns (`rdsparser_parse_string` is the only one that returns something) -/
def cret (u : Bool) (r : C_librdsparser) : Op → Bool
  | .parseString s => (c_rdsparser_parse_string u r (cstrArg s) []).1 != 0
  | _ => true

/-- what an observer of the translated C sees of call `op` made in C state `r`: the getters before, the getters after
`cstep`, the callbacks `cstep` logged, the C return value -/
def recOfC (u : Bool) (r : C_librdsparser) (op : Op) : StepRec :=
  ⟨op, Obs.ofState (abs r), Obs.ofState (abs (cstep u r op).1), (absLog (cstep u r op).2).map EvObs.ofEvent, cret u r op⟩

theorem recOfC_eq (u : Bool) (r : C_librdsparser) (hI : CInv r) (op : Op) (hop : Op.Translatable op) :
    recOfC u r op = recOf (cfgC u) (abs r) op := by
  obtain ⟨h1, h2, _⟩ := cstep_refines u r hI op hop
  have hret : cret u r op = (step (cfgC u) (abs r) op).2.2 := by
    cases op with
    | parseString s =>
      have h := (parse_string_refines u r hI s hop []).2.2.2
      simp only [cret, h]
      cases (step (cfgC u) (abs r) (.parseString s)).2.2 <;> simp [b2i]
    | _ => rfl
  unfold recOfC recOf
  simp only [h1, h2, hret]

theorem recOfC_run (u : Bool) (ops : List Op) (hops : ∀ op ∈ ops, Op.Translatable op) (op : Op) (hop : Op.Translatable op) :
    recOfC u (crun u ops) op = recOf (cfgC u) (run (cfgC u) ops) op := by
  rw [recOfC_eq u _ (crun_refines u ops hops).2 op hop, (crun_refines u ops hops).1]

/-- C01 for the translated source, and likewise the corollaries below: after every history of translated API calls and
for every next call, the observer's record taken from the C state satisfies `chkC01` -/
theorem C01_source (u : Bool) (ops : List Op) (hops : ∀ op ∈ ops, Op.Translatable op) (op : Op) (hop : Op.Translatable op) :
    chkC01 (monAfter (cfgC u) (ops ++ [op])) (recOfC u (crun u ops) op) = true := by
  rw [recOfC_run u ops hops op hop]
  exact C01 (sourceTabs u) (sourceEccOk u) ops op

theorem C04_source (u : Bool) (ops : List Op) (hops : ∀ op ∈ ops, Op.Translatable op) (op : Op) (hop : Op.Translatable op) :
    chkC04 (monAfter (cfgC u) ops) (recOfC u (crun u ops) op) = true := by
  rw [recOfC_run u ops hops op hop]
  exact C04 (sourceTabs u) (sourceEccOk u) ops op

theorem C09_source (u : Bool) (ops : List Op) (hops : ∀ op ∈ ops, Op.Translatable op) (op : Op) (hop : Op.Translatable op) :
    chkC09 (monAfter (cfgC u) (ops ++ [op])) (recOfC u (crun u ops) op) = true := by
  rw [recOfC_run u ops hops op hop]
  exact C09 (sourceTabs u) (sourceEccOk u) ops op

theorem C16_source (u : Bool) (ops : List Op) (hops : ∀ op ∈ ops, Op.Translatable op) (op : Op) (hop : Op.Translatable op) :
    chkC16 (cfgC u) (recOfC u (crun u ops) op) = true := by
  rw [recOfC_run u ops hops op hop]
  exact C16 (sourceTabs u) (sourceEccOk u) ops op

theorem C02_source (u : Bool) (ops : List Op) (hops : ∀ op ∈ ops, Op.Translatable op) (op : Op) (hop : Op.Translatable op) :
    chkC02 (cfgC u) (monAfter (cfgC u) ops) (recOfC u (crun u ops) op) = true := by
  rw [recOfC_run u ops hops op hop]
  exact C02 (sourceTabs u) (sourceEccOk u) ops op

theorem C06_source (u : Bool) (ops : List Op) (hops : ∀ op ∈ ops, Op.Translatable op) (op : Op) (hop : Op.Translatable op) :
    chkC06 (cfgC u) (monAfter (cfgC u) ops) (recOfC u (crun u ops) op) = true := by
  rw [recOfC_run u ops hops op hop]
  exact C06 (sourceTabs u) (sourceEccOk u) ops op

theorem C07_source (u : Bool) (ops : List Op) (hops : ∀ op ∈ ops, Op.Translatable op) (op : Op) (hop : Op.Translatable op) :
    chkC07 (monAfter (cfgC u) ops) (recOfC u (crun u ops) op) = true := by
  rw [recOfC_run u ops hops op hop]
  exact C07 (sourceTabs u) (sourceEccOk u) ops op

theorem C08_source (u : Bool) (ops : List Op) (hops : ∀ op ∈ ops, Op.Translatable op) (op : Op) (hop : Op.Translatable op) :
    chkC08 (monAfter (cfgC u) ops) (recOfC u (crun u ops) op) = true := by
  rw [recOfC_run u ops hops op hop]
  exact C08 (sourceTabs u) (sourceEccOk u) ops op

theorem C10_source (u : Bool) (ops : List Op) (hops : ∀ op ∈ ops, Op.Translatable op) (op : Op) (hop : Op.Translatable op) :
    chkC10 (monAfter (cfgC u) (ops ++ [op])) (recOfC u (crun u ops) op) = true := by
  rw [recOfC_run u ops hops op hop]
  exact C10 (sourceTabs u) (sourceEccOk u) ops op

theorem C11_source (u : Bool) (ops : List Op) (hops : ∀ op ∈ ops, Op.Translatable op) (op : Op) (hop : Op.Translatable op) :
    chkC11 (sourceTabs u) (monAfter (cfgC u) (ops ++ [op])) (recOfC u (crun u ops) op) = true := by
  rw [recOfC_run u ops hops op hop]
  exact C11 (sourceTabs u) (sourceEccOk u) ops op

theorem C12_source (u : Bool) (ops : List Op) (hops : ∀ op ∈ ops, Op.Translatable op) (op : Op) (hop : Op.Translatable op) :
    chkC12 (monAfter (cfgC u) ops) (recOfC u (crun u ops) op) = true := by
  rw [recOfC_run u ops hops op hop]
  exact C12 (sourceTabs u) (sourceEccOk u) ops op

theorem C13_source (u : Bool) (ops : List Op) (hops : ∀ op ∈ ops, Op.Translatable op) (op : Op) (hop : Op.Translatable op) :
    chkC13 (recOfC u (crun u ops) op) = true := by
  rw [recOfC_run u ops hops op hop]
  exact C13 (sourceTabs u) (sourceEccOk u) ops op

theorem C17_source (u : Bool) (ops : List Op) (hops : ∀ op ∈ ops, Op.Translatable op) (op : Op) (hop : Op.Translatable op) :
    chkC17 (monAfter (cfgC u) (ops ++ [op])) (recOfC u (crun u ops) op) = true := by
  rw [recOfC_run u ops hops op hop]
  exact C17 (sourceTabs u) (sourceEccOk u) ops op

/-- C14 for the translated source: `rdsparser_parse_string` as written in `utils.c`/`rdsparser.c` (over the libc models
of `RdsC/Prelude.lean`) accepts exactly the 16/18-digit hexadecimal strings, acts as `rdsparser_parse` on the decoded
group, and otherwise returns false and changes nothing -/
theorem C14_source (u : Bool) (ops : List Op) (hops : ∀ op ∈ ops, Op.Translatable op) (op : Op) (hop : Op.Translatable op) :
    chkC14 (recOfC u (crun u ops) op) = true := by
  rw [recOfC_run u ops hops op hop]
  exact C14 (cfgC u) ops op

/-- C03 for the translated source: in any C state satisfying `CInv`, two groups that differ only in unused blocks
(`sameUsed` with the settings the getters show) lead to C states denoting the same model state, and to the same
callbacks -/
theorem C03_source (u : Bool) (r : C_librdsparser) (hI : CInv r) (g g' : Group) (hg : g.Bounded) (hg' : g'.Bounded)
    (hs : sameUsed (abs r).set g g' = true) (log : CLog) :
    abs (c_rdsparser_parser_process u r (dataOf g) (errorsOf g) log).1 =
      abs (c_rdsparser_parser_process u r (dataOf g') (errorsOf g') log).1 ∧
    absLog (c_rdsparser_parser_process u r (dataOf g) (errorsOf g) log).2 =
      absLog (c_rdsparser_parser_process u r (dataOf g') (errorsOf g') log).2 := by
  have h1 := process_refines u r hI g hg log
  have h2 := process_refines u r hI g' hg' log
  have h3 := C03_process (cfgC u) (abs r) g g' hs
  simp only [] at h1 h2
  constructor
  · rw [h1.1, h2.1, h3]
  · rw [h1.2.1, h2.2.1, h3]

end RDS.C
