import RdsProps.Instantiated
import RdsProofs.TableC20
import RdsProofs.C20Proofs
/-!
# Property C20 — all four build configurations decode identically (modulo charset width)

What is proved (the check additionally compares the four real builds against each other and against their own instantiation
of the model on every run):
* every history theorem C01…C17 holds for an arbitrary configuration `tb`; `C01_`, `C02_`, `C04_`, `C07_`, `C09_`, `C10_`,
  `C12_`, `C13_`, `C15_`, `C16_`, `C17_generated` (RdsProps/Instantiated.lean) and `C11_generated` (RdsProps/C11.lean)
  instantiate those with the tables of the compiled library in BOTH charset configurations;
* `C20_narrow_table` / `C20_narrow_is_conv`: the non-unicode build stores the raw byte for 0x20..0x7E and a space for 0x7F and
  above — read out of the real narrow build and equal to the model's `conv` with `unicode = false`;
* `C20_consts`: both builds report the same compile-time constants, ECC table and lookup tables;
* `C20_g0_ascii`, `C20_g0_injective_ascii`: the charset table restricted to 0x20..0x7E is injective, keeps the space and
  never yields the end-of-text marker (the premise `G0Ascii` of `C20_ascii`);
* the no-heap configuration does not occur in the model at all: `RDSPARSER_DISABLE_HEAP` only removes `new`/`free`.
* `C20_full_false` — KNOWN FINDING: the statement "every level and callback is identical" is false. Witness (measured on the
  two real builds, and here on the two instantiations): PS data threshold 2; 0A address 0 with D = 0x8080 error-free; then
  D = 0x2020 with block-D error level 2. The wide build fires two PS callbacks and ends at level 5, the narrow build fires one
  and stays at level 0, because "identical data" is compared on converted characters and the narrow build has collapsed 0x80 to
  a space. The partial statements that do hold (RdsProofs/C20Proofs.lean): (A) `C20_ascii`, lock step modulo the embedding
  when no byte ≥ 0x7F is presented, and (B) `C20_nontext`, everything but the characters, levels and terminators of the
  texts, for all histories.
-/
-- THEOREM: RDS.C20_full_false
-- THEOREM: RDS.C20_ascii
-- THEOREM: RDS.C20_ascii_step
-- THEOREM: RDS.C20_ascii'
-- THEOREM: RDS.C20_ascii_step'
-- THEOREM: RDS.ac3_C20_sharp
-- THEOREM: RDS.C20_nontext
-- THEOREM: RDS.C20_nontext_step
-- THEOREM: RDS.C20_ascii_generated
-- THEOREM: RDS.C20_nontext_generated
-- THEOREM: RDS.C20_narrow_table
-- THEOREM: RDS.C20_narrow_is_conv
-- THEOREM: RDS.C20_consts
-- THEOREM: RDS.C20_g0_ascii
-- THEOREM: RDS.C20_g0_injective_ascii
-- THEOREM: RDS.C01_generated
-- THEOREM: RDS.C02_generated
-- THEOREM: RDS.C04_generated
-- THEOREM: RDS.C09_generated
-- THEOREM: RDS.C16_generated
-- THEOREM: RDS.C17_generated
namespace RDS

def c20Witness : List Op :=
  [.register .ps true, .setCorr .ps .data 2,
   .parse ⟨0x1234, 0x0000, 0, 0x8080, 0, 0, 0, 0⟩,
   .parse ⟨0x1234, 0x0000, 0, 0x2020, 0, 0, 0, 2⟩]

def psCallbacks (cfg : Cfg) (ops : List Op) : Nat :=
  ((trace cfg initState ops).map (fun r => (r.2.1.filter (fun e => e.kind == .ps)).length)).foldl (· + ·) 0

def cell0Level (cfg : Cfg) (ops : List Op) : Option Nat := (run cfg ops).ps[0]?.map (·.lvl)

/-- the full statement of C20 ("every level and callback identical") fails on this history -/
theorem C20_full_false :
    psCallbacks (Generated.cfg true) c20Witness = 2 ∧ psCallbacks (Generated.cfg false) c20Witness = 1 ∧
    cell0Level (Generated.cfg true) c20Witness = some 5 ∧ cell0Level (Generated.cfg false) c20Witness = some 0 := by
  decide +kernel

/-- the regenerated charset table satisfies the premise of `C20_ascii` -/
theorem g0Ascii_generated (u : Bool) : G0Ascii (Generated.cfg u) := by
  obtain ⟨hinj, h20, hnz⟩ := C20_g0_injective_ascii
  -- inside the table the default of the lookup does not matter
  have e : ∀ b, b ≤ 0x7E → (Generated.cfg u).g0 b = Generated.g0.getD b 0 := fun b hb =>
    getD_any _ b (by rw [tbl_generated_lengths.1]; omega) 0x20 0
  refine ⟨(e 0x20 (by omega)).trans h20, fun b h1 h2 => e b h2 ▸ hnz b h1 h2, fun b c hb1 hb2 hc1 hc2 heq => ?_⟩
  rw [e b hb2, e c hc2] at heq
  exact hinj b c hb1 hb2 hc1 hc2 heq

/-- C20 (A) for the compiled library's tables: on histories that never present a byte ≥ 0x7F the narrow build's state,
seen through the character embedding, IS the wide build's state -/
theorem C20_ascii_generated (ops : List Op) (ha : ∀ op ∈ ops, op.asciiOnly = true) :
    embedState (Generated.cfg true) (run (Generated.cfg true).narrow ops) = run (Generated.cfg true).wide ops :=
  C20_ascii (Generated.cfg true) (g0Ascii_generated true) ops ha

/-- C20 (B) for the compiled library's tables, all histories -/
theorem C20_nontext_generated (ops : List Op) :
    nonText (run (Generated.cfg true).narrow ops) = nonText (run (Generated.cfg true).wide ops) :=
  C20_nontext ⟨Generated.cfg true, Generated.countryCount⟩ (eccOk true) ops

end RDS
