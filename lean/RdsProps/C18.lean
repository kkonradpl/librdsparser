import RdsProofs.TableC18
/-!
# Property C18 — PTY and country lookups are total, bounded and name the right entity

Kernel-checked facts about `Generated.*`, the complete input/output graph of the five lookup functions
(`rdsparser_pty_lookup_name/_short/_long`, `rdsparser_country_lookup_name/_iso`) read out of the library compiled from the
current tree (256 PTY arguments × {RDS, RBDS} × 3 tables; 256 country arguments × 2 tables; never NULL, NUL-terminated
under ASan), against the hand-written oracle `Reference.*`; `tbl_reference_iso_distinct` is about the oracle alone.
`C18_pty` (entry for 0..31, "Unknown" otherwise), `C18_pty_width` (short ≤ 8, long ≤ 16 characters), `C18_country_name`,
`C18_country_iso` ("??" out of range; in range the (name, code) pair is a row of the ISO 3166-1 reference),
`C18_iso_two_letters`, `C18_iso_distinct` (two arguments share a code other than "--" only if they name the same country).
-/
-- THEOREM: RDS.C18_pty
-- THEOREM: RDS.C18_pty_width
-- THEOREM: RDS.C18_country_name
-- THEOREM: RDS.C18_country_iso
-- THEOREM: RDS.C18_iso_two_letters
-- THEOREM: RDS.C18_iso_distinct
-- THEOREM: RDS.tbl_reference_iso_distinct
