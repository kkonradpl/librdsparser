import RdsProofs.Reach
import RdsProofs.CellsProofs
import RdsProofs.TableC02
import RdsProofs.RefineProofs
/-!
# Property C02 — PS/RT/PTYN characters land in the addressed cells via the RDS charset

`C02` = `chkC02` for every history: a non-addressed cell never changes; an addressed cell (table `addressed`, C02's
list of positions) keeps its content or holds the table image of the received byte, and with error-free blocks it is
exactly what `C02_error_free` says; an RT A/B switch first emptying the selected buffer is left to C08.
`C02_closed_form` = `chkCells`: for all four texts at once, every cell after a delivered group equals `expectedText`
(addressed cells are the closed form `cellSpec` of the old cell and the received byte, the others unchanged).
The charset (`cfg.g0`) is the subject of the table theorems of RdsProofs/TableC02.lean, about the tables read out of
the compiled library: `C02_charset`: every byte ≥ 0x20 maps as in the hand-written RDS G0 reference; `C02_stored`:
exactly 0x0D and bytes ≥ 0x20 are stored; `C02_eol`, `C02_no_nul`: 0x0D is stored as 0 and no other stored byte is;
`C02_lane_independent`: the result depends on none of the ten character positions of the groups.
-/
-- THEOREM: RDS.C02
-- THEOREM: RDS.C02_closed_form
-- THEOREM: RDS.C02_error_free
-- THEOREM: RDS.updateSingle_cellSpec
-- THEOREM: RDS.C02_charset
-- THEOREM: RDS.C02_stored
-- THEOREM: RDS.C02_eol
-- THEOREM: RDS.C02_no_nul
-- THEOREM: RDS.C02_lane_independent
namespace RDS

/-- C02 for every history and every next call -/
theorem C02 (tb : Tabs) (h : EccOk tb) (ops : List Op) (op : Op) :
    chkC02 tb.cfg (monAfter tb.cfg ops) (recOf tb.cfg (run tb.cfg ops) op) = true :=
  chkC02_ok tb.cfg _ _ op (linkL_run tb.cfg ops).link.lastFlag

/-- the complete closed form of all four texts after any call (C02 ∧ C06 ∧ C07 ∧ C08 together) -/
theorem C02_closed_form (tb : Tabs) (h : EccOk tb) (ops : List Op) (op : Op) :
    chkCells tb.cfg (monAfter tb.cfg ops) (recOf tb.cfg (run tb.cfg ops) op) = true :=
  chkCells_ok tb.cfg _ _ op (linkL_run tb.cfg ops).link.lastFlag

/-- with error-free blocks an addressed cell becomes: end-of-text marker for 0x0D, unchanged for control codes
below 0x20, otherwise the converted character at level 0 -/
theorem C02_error_free (cfg : Cfg) (info data : Nat) (prog : Bool) (old : Cell) (b : Nat) :
    cellSpec cfg info data prog old b 0 0 =
      if b = 0x0D then ⟨0, 0⟩ else if b < 0x20 then old else ⟨conv cfg b, 0⟩ :=
  cellSpec_error_free cfg info data prog old b

end RDS
