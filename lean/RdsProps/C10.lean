import RdsProofs.Reach
import RdsProofs.C04Proofs
import RdsProofs.C08Cb
import RdsProofs.NormalShown
import RdsProofs.WordedProofs
import RdsProofs.StateFrames
import RdsProofs.LinkProofs
/-!
# Property C10 — AF list is exactly the set of valid FM codes received in 0A

`C10` = `chkC10` for every history: while the check mode has not changed since the first reception after the last
reset (`clean`), the AF bitmap is exactly `{v | count v ≥ 1}` (≥ 2 under the extended check), where `Mon.afRecv` counts a
code only if it is valid (1..204) and only from block C of a 0A group with error-free blocks B and C whose first code is
not 250 (`Mon.group`). That every addition fires the AF callback exactly once with 87500 + 100·code kHz is part of C04
(`chkC04`'s AF clause; `C10_callback`).
-/
-- THEOREM: RDS.C10
-- THEOREM: RDS.C10_normal_shown
-- THEOREM: RDS.C10_callback
-- THEOREM: RDS.C10_worded_normal
-- THEOREM: RDS.C10_worded_extended
-- THEOREM: RDS.C10_monotone
-- THEOREM: RDS.C10_only_valid_codes
-- THEOREM: RDS.C10_worded_extended'
namespace RDS

/-- "received is shown", for every history: with the extended check off at the moment of the call — whatever the mode
was earlier — both codes of an accepted 0A pair are on the list after the call (or are not FM codes) -/
theorem C10_normal_shown (tb : Tabs) (h : EccOk tb) (ops : List Op) (op : Op) :
    chkNormalAf (recOf tb.cfg (run tb.cfg ops) op) = true :=
  chkNormalAf_ok tb.cfg _ op (linkL_run tb.cfg ops).usedLen

/-- C10's callback clause for every history: while an AF callback is registered, the AF reports of a call are exactly the
codes the call added to the list, each once, as 87 500 + 100·code kHz -/
theorem C10_callback (tb : Tabs) (h : EccOk tb) (ops : List Op) (op : Op) :
    chkC10cb (monAfter tb.cfg ops) (recOf tb.cfg (run tb.cfg ops) op) = true :=
  chkC10cb_of_chkC04 _ _ (chkC04_ok tb.cfg _ _ op (linkL_run tb.cfg ops).link (linkL_run tb.cfg ops).usedLen)

theorem C10 (tb : Tabs) (h : EccOk tb) (ops : List Op) (op : Op) :
    chkC10 (monAfter tb.cfg (ops ++ [op])) (recOf tb.cfg (run tb.cfg ops) op) = true := by
  rw [monAfter_snoc]
  exact chkC10_ok tb _ _ op (linkL_run tb.cfg ops)

/-- codes 0 and 205..255 (filler, count, LF/MF markers) never count -/
theorem C10_only_valid_codes (m : Mon) (v : Nat) (h : v = 0 ∨ 205 ≤ v) : m.afRecv v = m :=
  Mon.afRecv_invalid m v (by simp only [afValid, Bool.and_eq_false_iff, decide_eq_false_iff_not]; omega)

end RDS
