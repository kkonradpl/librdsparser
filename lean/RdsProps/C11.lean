import RdsProofs.Reach
import RdsProofs.NormalShown
import RdsProofs.LinkProofs
import RdsProofs.TableC11
import RdsProofs.StateFrames
/-!
# Property C11 — ECC and country follow group 1A variant 0 and the IEC 62106-4 table

`C11` = `chkC11` for every history: while the check mode has not changed since the first reception after the last reset
(`clean`), ECC and country shown by the getters equal the abstract fields, which receive a value only from a 1A group with
error-free blocks B and C and variant 0 (`Mon.group`): ECC = low byte of block C, country = table entry for (nibble of the
PI visible at that moment, ECC), 0 when PI is unknown or its nibble is 0; and, whatever the history, the country is a
valid enumerator. `C11_generated` instantiates it with the tables read out of the compiled library (no hypothesis left).
`C11_table`: that table equals the IEC 62106-4 reference on all 17 × 256 cells; `C11_unknown`: 'unknown' outside
A0–A6/D0–D4/E0–E5/F0–F4 and for PI unknown / nibble 0; `C11_range`: every cell is a valid enumerator.
`C11_frame*` (RdsProofs/StateFrames.lean): no call other than such a 1A group, `init` and `clear` changes ECC or country.
-/
-- THEOREM: RDS.C11
-- THEOREM: RDS.C11_normal_shown
-- THEOREM: RDS.C11_generated
-- THEOREM: RDS.C11_table
-- THEOREM: RDS.C11_cells
-- THEOREM: RDS.C11_range
-- THEOREM: RDS.C11_unknown
-- THEOREM: RDS.eccOk
-- THEOREM: RDS.C11_frame
-- THEOREM: RDS.C11_frame_step
-- THEOREM: RDS.C11_frame_history
namespace RDS

/-- "received is shown", for every history: with the extended check off at the moment of the call — whatever the mode
was earlier — the ECC of an accepted 1A variant-0 group is what the getter shows after the call -/
theorem C11_normal_shown (tb : Tabs) (h : EccOk tb) (ops : List Op) (op : Op) :
    chkNormalEcc (recOf tb.cfg (run tb.cfg ops) op) = true :=
  chkNormalEcc_ok tb.cfg _ op (linkL_run tb.cfg ops).usedLen

theorem C11 (tb : Tabs) (h : EccOk tb) (ops : List Op) (op : Op) :
    chkC11 tb (monAfter tb.cfg (ops ++ [op])) (recOf tb.cfg (run tb.cfg ops) op) = true := by
  have hr := reach tb h ops
  rw [monAfter_snoc]
  exact chkC11_ok tb _ _ op (linkL_run tb.cfg ops) (wf_step tb h _ op hr.2)

theorem C11_generated (u : Bool) (ops : List Op) (op : Op) :
    chkC11 ⟨Generated.cfg u, Generated.countryCount⟩
      (monAfter (Generated.cfg u) (ops ++ [op])) (recOf (Generated.cfg u) (run (Generated.cfg u) ops) op) = true :=
  C11 ⟨Generated.cfg u, Generated.countryCount⟩ (eccOk u) ops op

end RDS
