import RdsProofs.Reach
import RdsProofs.NormalShown
import RdsProofs.WordedProofs
import RdsProofs.StateFrames
/-!
# Property C01 — basic tuning fields always equal the last error-free reception

`C01` = `chkC01` (RdsSpec/Monitors.lean) after every call: whenever the parser has been in normal mode for every
reception since the last reset, PI/PTY/TP/TA/MS shown by the getters equal the abstract fields of the reference machine
`Mon`, whose `vis` is the last error-free reception (`AFld.recv false f v = ⟨some v, v⟩`) and `-1` before the first one.
Quantification: every table configuration `tb` with `EccOk tb`, every history `ops` from initialisation, every next call
`op` (all 16 group types, any block values, any error codes — `Group` fields are unbounded naturals).
-/
-- THEOREM: RDS.C01
-- THEOREM: RDS.C01_normal_shown
-- THEOREM: RDS.C01_worded
-- THEOREM: RDS.C01_never_unknown
-- THEOREM: RDS.C01_received_nonneg
-- THEOREM: RDS.C01_normal_mode_shows_last
-- THEOREM: RDS.C01_never_unknown_step
-- THEOREM: RDS.C01_never_unknown_getter
-- THEOREM: RDS.C01_never_unknown_getter_suffix
namespace RDS

/-- "received is shown", for every history: with the extended check off at the moment of the call — whatever the mode
was earlier — PI, PTY, TP (and TA, MS for group 0) delivered through error-free blocks are what the getters show after
the call -/
theorem C01_normal_shown (tb : Tabs) (h : EccOk tb) (ops : List Op) (op : Op) :
    chkNormalScalars (recOf tb.cfg (run tb.cfg ops) op) = true :=
  chkNormalScalars_ok tb.cfg _ op (linkL_run tb.cfg ops).usedLen

theorem C01 (tb : Tabs) (h : EccOk tb) (ops : List Op) (op : Op) :
    chkC01 (monAfter tb.cfg (ops ++ [op])) (recOf tb.cfg (run tb.cfg ops) op) = true := by
  rw [monAfter_snoc]
  exact chkC01_ok tb _ _ op (linkL_run tb.cfg ops)

/-- the abstract field in normal mode is literally "the last reception" -/
theorem C01_normal_mode_shows_last (f : AFld) (v : Int) :
    (f.recv false v).vis = v ∧ (f.recv false v).last = some v := by
  simp [AFld.recv]

end RDS
