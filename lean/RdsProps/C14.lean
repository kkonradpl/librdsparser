import RdsProofs.C14RoundTrip
import RdsProofs.C14Proofs
/-!
# Property C14 — hex-string input is strictly validated and equivalent to binary input

`C14_accept_iff`: the string is accepted exactly when it consists of 16 or 18 hexadecimal digits (either case) and
nothing else. `C14_decoded`: the decoded blocks are the positional values of the four 4-digit fields and the error levels are
the four 2-bit fields of the trailing byte (all zero when absent). `C14_equiv`: an accepted string has exactly the effect of
`rdsparser_parse` with the decoded group (same successor state, same callbacks, result true). `C14_reject`: every other input,
including NULL, returns false, fires no callback and leaves the state untouched. `C14` = `chkC14` for every history and
every next call. `C14_roundtrip18/16`: every group with 16-bit blocks and 2-bit error levels (all zero for 16 digits) is the
decoding of a string, in either letter case.
-/
-- THEOREM: RDS.C14
-- THEOREM: RDS.C14_accept_iff
-- THEOREM: RDS.C14_decoded
-- THEOREM: RDS.C14_equiv
-- THEOREM: RDS.C14_reject
-- THEOREM: RDS.C14_roundtrip18
-- THEOREM: RDS.C14_roundtrip16
-- THEOREM: RDS.C14_string_reaches
-- THEOREM: RDS.hexNum4
-- THEOREM: RDS.hexVal_digit
namespace RDS

theorem C14 (cfg : Cfg) (ops : List Op) (op : Op) : chkC14 (recOf cfg (run cfg ops) op) = true :=
  chkC14_ok cfg _ op

end RDS
