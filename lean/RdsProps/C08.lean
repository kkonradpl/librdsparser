import RdsProofs.CellsProofs
import RdsProofs.RefineProofs
import RdsProofs.LinkProofs
import RdsProofs.C04Proofs
import RdsProofs.C08Cb
/-!
# Property C08 — RadioText A/B protocol: switch empties the new buffer, noisy flags are ignored

`C08` = `chkC08` for every history: the buffer of the other flag is untouched, the selected buffer is emptied first
exactly on a switch, a noisy group changes no RT cell. It follows from the closed form `expectedText`, which encodes
the protocol: `switchDiscard` (error-free block B, a last flag is known and differs from the group's, the selected
buffer holds something) empties the selected buffer first; `rtNoisy` (block B has errors, a last flag is known and
differs from the group's) leaves every RT cell as it was; the buffer of the other flag is never addressed. The monitor's
`lastFlag` is the flag of the most recent type-2 group with error-free block B since reset (`Mon.group`), -1 if there
is none, and equals the model's `lastRt` in every reachable state (`Link.lastFlag`).
`C08_other_buffer` and `C08_noisy` are the property's sentences on `expectedText`, `C08_first_flag` on `switchDiscard`.
-/
-- THEOREM: RDS.C08
-- THEOREM: RDS.C08_callback
-- THEOREM: RDS.C08_first_processed
-- THEOREM: RDS.C08_other_buffer
-- THEOREM: RDS.C08_noisy
-- THEOREM: RDS.C08_first_flag
namespace RDS

/-- C08 for every history and every next call -/
theorem C08 (tb : Tabs) (h : EccOk tb) (ops : List Op) (op : Op) :
    chkC08 (monAfter tb.cfg ops) (recOf tb.cfg (run tb.cfg ops) op) = true :=
  chkC08_ok tb.cfg _ _ op (linkL_run tb.cfg ops).link.lastFlag

/-- C08's callback clause for every history: a switch that empties the new flag's buffer is reported by exactly one RT
callback carrying that flag (while an RT callback is registered) -/
theorem C08_callback (tb : Tabs) (h : EccOk tb) (ops : List Op) (op : Op) :
    chkC08cb (monAfter tb.cfg ops) (recOf tb.cfg (run tb.cfg ops) op) = true :=
  chkC08cb_of_chkC04 _ _ (chkC04_ok tb.cfg _ _ op (linkL_run tb.cfg ops).link (linkL_run tb.cfg ops).usedLen)

/-- C08's first-flag clause for every history: while no flag has been seen since the last reset, a type-2 group, also
one whose block B has errors, is neither a switch nor ignored as a bit-flip: both RT buffers are exactly the expected
ones -/
theorem C08_first_processed (tb : Tabs) (h : EccOk tb) (ops : List Op) (op : Op) :
    chkC08first tb.cfg (monAfter tb.cfg ops) (recOf tb.cfg (run tb.cfg ops) op) = true :=
  chkC08first_of_chkCells _ _ _ (chkCells_ok tb.cfg _ _ op (linkL_run tb.cfg ops).link.lastFlag)

/-- a type-2 group never modifies the buffer of the other flag -/
theorem C08_other_buffer (cfg : Cfg) (m : Mon) (before : Obs) (g : Group) (h2 : g.type = 2) :
    expectedText cfg m before g (1 + (1 - g.b / 16 % 2)) =
      (List.range (before.text (1 + (1 - g.b / 16 % 2))).cells.length).map
        (fun i => (before.text (1 + (1 - g.b / 16 % 2))).cells.getD i blank) := by
  rw [range_map_getD]
  refine expectedText_keep _ _ _ _ _ (by rw [decide_eq_false (by omega), Bool.and_false]) (.inr ?_)
  exact List.filter_eq_nil_iff.mpr fun a ha => by
    rw [decide_eq_true_eq, addressed_type2_text g h2 a ha]; omega

/-- a type-2 group whose block B has errors and whose flag differs from the last seen one changes no RT cell -/
theorem C08_noisy (cfg : Cfg) (m : Mon) (before : Obs) (g : Group) (hn : rtNoisy m g = true) (t : Nat) :
    expectedText cfg m before g t =
      (List.range (before.text t).cells.length).map (fun i => (before.text t).cells.getD i blank) := by
  rw [range_map_getD]
  exact expectedText_keep _ _ _ _ _ (by rw [rtNoisy_switchDiscard m before g hn, Bool.false_and]) (.inl hn)

/-- the very first flag after a reset empties nothing -/
theorem C08_first_flag (m : Mon) (before : Obs) (g : Group) (h : m.lastFlag = -1) :
    switchDiscard m before g = false := by
  simp [switchDiscard, h]

end RDS
