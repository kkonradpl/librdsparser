import RdsProofs.Reach
import RdsProofs.C12Proofs
import RdsProofs.C12Layout
/-!
# Property C12 — every reported clock time is the broadcast UTC instant shifted by the offset

`C12` = `chkC12` for every history and every next call: exactly one clock-time report for a 4A group with error-free
blocks B, C, D, hour < 24 and minute < 60 (when the callback is registered), none otherwise; the reported date is a valid
Gregorian date, the time of day is in range, the reported offset is 30·(signed half hours), and
`mjdOf date · 1440 + hour · 60 + minute = MJD · 1440 + UTC hour · 60 + UTC minute + offset` — i.e. the report is the
broadcast instant shifted by the offset, across midnight, month and year ends.
`civilFromDays_correct` is the calendar core for every day number `z ≥ 0` (not only the 2^17 + 2 that occur);
`ctInit_correct` / `ctInit_reject` are the statements about `rdsparser_ct_init`; `ctFields_spec` (`_mod`: without the
16-bit bound on block C) says that the four fields are read from the bit positions the standard gives.
-/
-- THEOREM: RDS.C12
-- THEOREM: RDS.civilFromDays_correct
-- THEOREM: RDS.ctInit_correct
-- THEOREM: RDS.ctInit_reject
-- THEOREM: RDS.ctFields_spec
-- THEOREM: RDS.ctFields_spec_mod
-- THEOREM: RDS.afr_ctFieldsShift_eq
namespace RDS

theorem C12 (tb : Tabs) (h : EccOk tb) (ops : List Op) (op : Op) :
    chkC12 (monAfter tb.cfg ops) (recOf tb.cfg (run tb.cfg ops) op) = true :=
  chkC12_ok tb.cfg _ _ op (linkL_run tb.cfg ops).link.cbs

-- anchors of the day count: MJD 0 = 1858-11-17, MJD 51544 = 2000-01-01, MJD 60275 = 2023-11-27, MJD 88128 = 2100-03-01
example : mjdOf 1858 11 17 = 0 ∧ mjdOf 2000 1 1 = 51544 ∧ mjdOf 2023 11 27 = 60275 ∧ mjdOf 2100 3 1 = 88128 := by
  decide

end RDS
