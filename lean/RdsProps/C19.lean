import RdsProofs.C19Proofs
/-!
# Property C19 — parser instances are isolated (model level)

Model-level part of C19 (the content of C19 for the *implementation* — no state outside the struct, no data race —
is what the multi-instance correspondence, the writable-segment check and TSan exercise). `C19_isolation`: for every
interleaved schedule of operations on up to 8 slots, what slot i holds afterwards equals the result of its own operations
alone. `C19_other_slots`/`C19_select`/`C19_cur`: one operation changes only the current slot and does there exactly what a
solo parser does.
-/
-- THEOREM: RDS.C19_isolation
-- THEOREM: RDS.C19_other_slots
-- THEOREM: RDS.C19_select
-- THEOREM: RDS.C19_cur
