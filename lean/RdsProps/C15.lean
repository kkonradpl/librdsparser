import RdsProofs.C15Proofs
import RdsProofs.LinkProofs
import RdsProofs.Reentrant
import RdsProofs.ReentrantObs
/-!
# Property C15 — callbacks, user data and getters are pure observers

`C15_state`/`C15_observer`/`C15_run`: the parser state with the observer table erased evolves identically whatever is
registered and whatever observer operations (register, set_user_data, getters) are interleaved. `C15_events`: the callbacks
invoked are exactly those of the all-listening run filtered by the registration table, each seeing the same getter-visible
state. `C15_ud`: every invoked callback is registered and receives the user data most recently set. `C15` = `chkC15` for
every history: the same of every event of a call, and register / set_user_data / getters change nothing the getters show
and invoke nothing (`chkC15` also tests `handleOk`, the handle passed to the callback: `true` by construction for the
model's events, measured by the harness on the implementation).
`C15_nested_noop`, `processH_noop`, `mstepH_noop`: the nested-call model (`RdsModel/Reentrant.lean`, callbacks as state
transformers threaded through the decoder in C's invocation order) collapses to the model the theorems above are about
when the callbacks do not call the API. `C15_nested`, `processH_erase`: a callback that from inside the call changes
nothing but the registration table and the user data (handler `h` with `erase (h e s).1 = erase s`) does not influence
what is decoded; `handlerOfMode_observerOnly`: the harness modes `ri 1000..4999` are such handlers (non-vacuity).
-/
-- THEOREM: RDS.C15
-- THEOREM: RDS.C15_state
-- THEOREM: RDS.C15_observer
-- THEOREM: RDS.C15_ret
-- THEOREM: RDS.C15_events
-- THEOREM: RDS.C15_ud
-- THEOREM: RDS.C15_run
-- THEOREM: RDS.C15_nested_noop
-- THEOREM: RDS.processH_noop
-- THEOREM: RDS.mstepH_noop
-- THEOREM: RDS.C15_nested
-- THEOREM: RDS.processH_erase
-- THEOREM: RDS.handlerOfMode_observerOnly
namespace RDS

theorem C15 (tb : Tabs) (h : EccOk tb) (ops : List Op) (op : Op) :
    chkC15 (monAfter tb.cfg ops) (recOf tb.cfg (run tb.cfg ops) op) = true :=
  chkC15_ok tb.cfg _ _ op (linkL_run tb.cfg ops).link

theorem C15_nested (cfg : Cfg) (h : Handler) (ho : h.ObserverOnly) (s : State) (op : Op) :
    erase (stepH cfg h s op).1 = erase (step cfg s op).1 :=
  stepH_erase cfg h ho s op

theorem C15_nested_noop (cfg : Cfg) (s : State) (op : Op) : stepH cfg Handler.noop s op = step cfg s op :=
  stepH_noop cfg s op

end RDS
