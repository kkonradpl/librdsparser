import RdsProofs.RefineProofs
import RdsProofs.CellsProofs
import RdsProofs.C07History
/-!
# Property C07 — progressive correction only ever improves a character cell

`C07` = `chkC07` for every history: with progressive correction on for a text, after any call other than
init/clear no cell level of that text increases and a character is replaced only by a reception addressed to the cell
whose weighted level is not worse than the cell's, except in the RT buffer that an A/B switch empties.
`C07_error_free_taken` = `chkC07conv`, the convergence clause per call.
`C07_cell`, `C07_error_free_stable`: the same rules on the closed form `cellSpec`.
The other theorems listed are the clauses of C07 over whole histories (RdsProofs/C07History.lean).
-/
-- THEOREM: RDS.C07
-- THEOREM: RDS.C07_error_free_taken
-- THEOREM: RDS.C07_history_ps
-- THEOREM: RDS.C07_history_ptyn
-- THEOREM: RDS.C07_level0_sticky_ps
-- THEOREM: RDS.C07_cell
-- THEOREM: RDS.C07_error_free_stable
-- THEOREM: RDS.C07_history_rt
-- THEOREM: RDS.C07_history_rt_keeps
-- THEOREM: RDS.C07_history_text
-- THEOREM: RDS.C07_char_replaced_only_by_not_worse
-- THEOREM: RDS.C07_error_free_sticky
-- THEOREM: RDS.C07_error_free_sticky_history
-- THEOREM: RDS.C07_converges
-- THEOREM: RDS.C07_converges_string
namespace RDS

/-- C07's convergence clause per call, for every history: in a text with progressive correction on, an error-free
reception addressed to a cell is always taken (marker for 0x0D, old content for a control code, otherwise the table
image at level 0) -/
theorem C07_error_free_taken (tb : Tabs) (h : EccOk tb) (ops : List Op) (op : Op) :
    chkC07conv tb.cfg (monAfter tb.cfg ops) (recOf tb.cfg (run tb.cfg ops) op) = true :=
  chkC07conv_of_chkC02 _ _ _ (chkC02_ok tb.cfg _ _ op (linkL_run tb.cfg ops).link.lastFlag)

/-- C07 for every history and every next call -/
theorem C07 (tb : Tabs) (h : EccOk tb) (ops : List Op) (op : Op) :
    chkC07 (monAfter tb.cfg ops) (recOf tb.cfg (run tb.cfg ops) op) = true :=
  chkC07_ok tb.cfg _ _ op (linkL_run tb.cfg ops).link.lastFlag (lens_run tb.cfg ops)

/-- progressive mode: the level never increases, and the character is replaced only by a reception whose level is
not worse than the current one -/
theorem C07_cell (cfg : Cfg) (info data : Nat) (old : Cell) (b eb ed : Nat) :
    (cellSpec cfg info data true old b eb ed).lvl ≤ old.lvl ∧
    ((cellSpec cfg info data true old b eb ed) ≠ old →
      (cellSpec cfg info data true old b eb ed).lvl = (if (decide (eb = 0) && decide (ed = 0)) = true then 0 else 2 * eb + 3 * ed - 1)) := by
  refine ⟨cellSpec_lvl_le cfg info data old b eb ed, fun hne => ?_⟩
  rcases cellSpec_cases cfg info data true old b eb ed with h | ⟨h, _⟩
  · exact absurd h hne
  · rw [h]; rfl

/-- once a cell holds an error-free character only another error-free reception can change it -/
theorem C07_error_free_stable (cfg : Cfg) (info data : Nat) (old : Cell) (b eb ed : Nat)
    (h0 : old.lvl = 0) (he : ¬ (eb = 0 ∧ ed = 0)) :
    cellSpec cfg info data true old b eb ed = old := by
  rcases cellSpec_cases cfg info data true old b eb ed with h | ⟨_, _, _, hp, _⟩
  · exact h
  · have := hp rfl
    rw [recvLevel_eq, h0, Nat.le_zero, calcError_eq_zero] at this
    exact absurd this he

end RDS
