import RdsProps.C01
import RdsProps.C02
import RdsProps.C04
import RdsProps.C07
import RdsProps.C09
import RdsProps.C10
import RdsProps.C12
import RdsProps.C13
import RdsProps.C15
import RdsProps.C16
import RdsProps.C17
import RdsProofs.TableC11
/-!
# The history theorems instantiated with the tables of the compiled library

The history theorems `Cxx` instantiated below are proved for an arbitrary table configuration `tb` satisfying the range
contract `EccOk`. `eccOk` (RdsProofs/TableC11.lean) proves that contract of the tables read out of the library compiled from
the current tree, for both charset configurations `u = true` (default) and `u = false` (`RDSPARSER_DISABLE_UNICODE`).
Hence each configuration satisfies them with no hypothesis left: the first half of C20. (`C11_generated` is in
RdsProps/C11.lean; C03, C05, C06, C08, C14 have no instance here.)
-/
namespace RDS

/-- the concrete configuration the driver runs -/
def genTabs (u : Bool) : Tabs := ⟨Generated.cfg u, Generated.countryCount⟩

theorem C01_generated (u : Bool) (ops : List Op) (op : Op) :
    chkC01 (monAfter (genTabs u).cfg (ops ++ [op])) (recOf (genTabs u).cfg (run (genTabs u).cfg ops) op) = true :=
  C01 (genTabs u) (eccOk u) ops op
theorem C02_generated (u : Bool) (ops : List Op) (op : Op) :
    chkCells (genTabs u).cfg (monAfter (genTabs u).cfg ops) (recOf (genTabs u).cfg (run (genTabs u).cfg ops) op) = true :=
  C02_closed_form (genTabs u) (eccOk u) ops op
theorem C04_generated (u : Bool) (ops : List Op) (op : Op) :
    chkC04 (monAfter (genTabs u).cfg ops) (recOf (genTabs u).cfg (run (genTabs u).cfg ops) op) = true :=
  C04 (genTabs u) (eccOk u) ops op
theorem C07_generated (u : Bool) (ops : List Op) (op : Op) :
    chkC07 (monAfter (genTabs u).cfg ops) (recOf (genTabs u).cfg (run (genTabs u).cfg ops) op) = true :=
  C07 (genTabs u) (eccOk u) ops op
theorem C09_generated (u : Bool) (ops : List Op) (op : Op) :
    chkC09 (monAfter (genTabs u).cfg (ops ++ [op])) (recOf (genTabs u).cfg (run (genTabs u).cfg ops) op) = true :=
  C09 (genTabs u) (eccOk u) ops op
theorem C10_generated (u : Bool) (ops : List Op) (op : Op) :
    chkC10 (monAfter (genTabs u).cfg (ops ++ [op])) (recOf (genTabs u).cfg (run (genTabs u).cfg ops) op) = true :=
  C10 (genTabs u) (eccOk u) ops op
theorem C12_generated (u : Bool) (ops : List Op) (op : Op) :
    chkC12 (monAfter (genTabs u).cfg ops) (recOf (genTabs u).cfg (run (genTabs u).cfg ops) op) = true :=
  C12 (genTabs u) (eccOk u) ops op
theorem C13_generated (u : Bool) (ops : List Op) (op : Op) :
    chkC13 (recOf (genTabs u).cfg (run (genTabs u).cfg ops) op) = true :=
  C13 (genTabs u) (eccOk u) ops op
theorem C15_generated (u : Bool) (ops : List Op) (op : Op) :
    chkC15 (monAfter (genTabs u).cfg ops) (recOf (genTabs u).cfg (run (genTabs u).cfg ops) op) = true :=
  C15 (genTabs u) (eccOk u) ops op
theorem C16_generated (u : Bool) (ops : List Op) (op : Op) :
    chkC16 (genTabs u).cfg (recOf (genTabs u).cfg (run (genTabs u).cfg ops) op) = true :=
  C16 (genTabs u) (eccOk u) ops op
theorem C17_generated (u : Bool) (ops : List Op) (op : Op) :
    chkC17 (monAfter (genTabs u).cfg (ops ++ [op])) (recOf (genTabs u).cfg (run (genTabs u).cfg ops) op) = true :=
  C17 (genTabs u) (eccOk u) ops op

end RDS
