import RdsProofs.C05Proofs
/-!
# Property C05 — no memory-unsafe or undefined behaviour (logic part: index arithmetic)

The part of C05 a model can carry: every cell index any group can address is inside the capacity of the addressed
text, for every value of block B (`C05_addressed_in_range`, `C05_positions`); `updateSingle`'s out-of-range outcome
occurs exactly for an index outside the buffer (`C05_oob_iff`), and buffers keep their capacity (`C05_length`,
`lens_run`), so that outcome is unreachable from `process` (`C05_no_oob_process`, `C05_no_oob_step`, about a copy of
`process` that also returns every `updateSingle` outcome: `ac5_process_mirror`). Accepted AF codes index inside the
26-byte bitmap (`C05_af_index`), and `process` accesses it by such codes only (`C05_af_index_process`). The model is
total (no `partial`, no fuel). Out-of-bounds accesses the index arithmetic
does not explain, uninitialised reads, signed overflow, libc behaviour and the allocator are exercised by sanitizers,
not proved.
-/
-- THEOREM: RDS.C05_addressed_in_range
-- THEOREM: RDS.C05_oob_iff
-- THEOREM: RDS.C05_positions
-- THEOREM: RDS.C05_af_index
-- THEOREM: RDS.C05_length
-- THEOREM: RDS.C05_no_oob_reachable
-- THEOREM: RDS.ac5_process_mirror
-- THEOREM: RDS.C05_no_oob_process
-- THEOREM: RDS.C05_no_oob_step
-- THEOREM: RDS.C05_af_index_process
namespace RDS

/-- in every reachable state, every cell a delivered group addresses exists in the addressed buffer -/
theorem C05_no_oob_reachable (tb : Tabs) (h : EccOk tb) (ops : List Op) (g : Group) :
    ∀ a ∈ addressed g, a.2.1 < ((Obs.ofState (run tb.cfg ops)).text a.1).cells.length := by
  intro a ha
  rw [obs_text_cells, (lens_run tb.cfg ops).text a.1]
  exact (C05_addressed_in_range g a ha).2

end RDS
