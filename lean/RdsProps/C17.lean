import RdsProofs.Reach
import RdsProofs.LinkProofs
import RdsProofs.StateFrames
/-!
# Property C17 — settings are independent, clamped, and only changed by their setters

`C17` = `chkC17` for every history: the ten settings shown by the getters equal the abstract machine's `set`, which
is changed only by the three setters (`Settings.setCorr` clamps with `min v 2`), is reset only by `init`, survives `clear`,
and is untouched by parsing (`Mon.step`); and a setter leaves every other getter-visible value as it was and fires no
callback. The other theorems (RdsProofs/StateFrames.lean) say the same of the model directly: each setter changes exactly
its own key, and a setting reads back what was last written to it (`C17_worded`).
-/
-- THEOREM: RDS.C17
-- THEOREM: RDS.C17_worded
-- THEOREM: RDS.C17_clamp
-- THEOREM: RDS.C17_settings_frame
-- THEOREM: RDS.C17_setExt_only
-- THEOREM: RDS.C17_setCorr_only
-- THEOREM: RDS.C17_setProg_only
-- THEOREM: RDS.C17_other_keep_settings
-- THEOREM: RDS.C17_settings_frame_history
namespace RDS

theorem C17 (tb : Tabs) (h : EccOk tb) (ops : List Op) (op : Op) :
    chkC17 (monAfter tb.cfg (ops ++ [op])) (recOf tb.cfg (run tb.cfg ops) op) = true := by
  rw [monAfter_snoc]
  exact chkC17_ok tb.cfg _ _ op (linkL_run tb.cfg ops).link.set

end RDS
