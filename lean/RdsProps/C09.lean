import RdsProofs.Reach
import RdsProofs.WordedProofs
import RdsProofs.LinkProofs
import RdsProofs.C09TextIndep
/-!
# Property C09 — extended check: nothing seen only once ever becomes visible

`C09` = `chkC09` for every history: while the extended check has been on for every reception since the last reset
(`clean ∧ ext`; in particular when it is set while the parser is in its reset state), the seven buffered scalars equal the
abstract fields and the AF list is exactly the set of codes received at least twice. `C09_two_consecutive` is the rule of
the abstract field (`AFld.recv true`): the visible value changes to v exactly when the previous reception also carried v.
`C09_worded*`, `extFold_*` (RdsProofs/WordedProofs.lean): the same read directly over the call history.
`C09_text_indep*` (RdsProofs/C09TextIndep.lean): texts and clock time do not depend on the extended check.
-/
-- THEOREM: RDS.C09
-- THEOREM: RDS.C09_text_indep_step
-- THEOREM: RDS.C09_text_indep
-- THEOREM: RDS.C09_worded
-- THEOREM: RDS.extFold_shown
-- THEOREM: RDS.extFold_no_double
-- THEOREM: RDS.extFold_double_at_end
-- THEOREM: RDS.C09_two_consecutive
-- THEOREM: RDS.C09_single_never_visible
-- THEOREM: RDS.C09_worded'
-- THEOREM: RDS.C09_worded_country
-- THEOREM: RDS.C09_worded_country'
-- THEOREM: RDS.C09_worded'_suffix
-- THEOREM: RDS.C09_text_indep_trace
-- THEOREM: RDS.ac09_extendedMode_toPrime
namespace RDS

theorem C09 (tb : Tabs) (h : EccOk tb) (ops : List Op) (op : Op) :
    chkC09 (monAfter tb.cfg (ops ++ [op])) (recOf tb.cfg (run tb.cfg ops) op) = true := by
  rw [monAfter_snoc]
  exact chkC09_ok tb _ _ op (linkL_run tb.cfg ops)

/-- extended check: a reception of `v` becomes visible iff the immediately preceding reception of that field also
carried `v`; otherwise the visible value stays what it was -/
theorem C09_two_consecutive (f : AFld) (v : Int) :
    (f.recv true v).last = some v ∧
    (f.last = some v → (f.recv true v).vis = v) ∧ (f.last ≠ some v → (f.recv true v).vis = f.vis) := by
  refine ⟨by simp [AFld.recv], ?_, ?_⟩
  · intro h; simp [AFld.recv, h]
  · intro h; simp [AFld.recv, h]

/-- a value received a single time between two receptions of other values never becomes visible -/
theorem C09_single_never_visible (f : AFld) (v w : Int) (h1 : f.last ≠ some v) (h2 : w ≠ v) :
    ((f.recv true v).recv true w).vis = f.vis ∨ ((f.recv true v).recv true w).vis = w := by
  simp only [AFld.recv, if_true]
  have : (some v : Option Int) ≠ some w := by
    intro h; exact h2 (Option.some.inj h).symm
  simp [h1, this]

end RDS
