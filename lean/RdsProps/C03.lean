import RdsProofs.Reach
import RdsProofs.C03Proofs
/-!
# Property C03 — blocks flagged above the accepted error level never influence anything

`C03_process`: for every state, every group and every replacement of the data bits of unused blocks
(`sameUsed`, RdsSpec/Statements.lean — the property's list of accepted levels) the successor state AND the event list
are identical; since the successor states are equal, so is all later behaviour (`C03_trace` lifts it to op lists).
`C03_process_typed`, `C03_process'`, `C03_trace'` (RdsProofs/C03Proofs.lean) and `C03_typed` (below): the type-aware
reading — an errored block B is used only by the text handler of the group type it carries, so two groups whose block B
is unused in that sense agree as soon as block A agrees where used (B, C, D and their error codes may all differ);
`ac3_sameUsed_onesided_false` shows the relation must be two-sided. `C03_uncorrectable`: with thresholds clamped to
'large' a block with any code ≥ 3 is never used, block B included.
-/
-- THEOREM: RDS.C03_process
-- THEOREM: RDS.C03_trace
-- THEOREM: RDS.C03_uncorrectable
-- THEOREM: RDS.C03
-- THEOREM: RDS.C03_process_typed
-- THEOREM: RDS.C03_process'
-- THEOREM: RDS.C03_trace'
-- THEOREM: RDS.C03_typed
-- THEOREM: RDS.ac3_process_unusedB'
-- THEOREM: RDS.ac3_sameUsed_onesided_false
namespace RDS

/-- C03 on reachable states: thresholds are clamped there (`WF.setOk`), so "uncorrectable is always ignored" holds
for every history -/
theorem C03 (tb : Tabs) (h : EccOk tb) (ops : List Op) (g g' : Group)
    (hs : sameUsed (run tb.cfg ops).set g g' = true) :
    process tb.cfg (run tb.cfg ops) g = process tb.cfg (run tb.cfg ops) g' ∧
    ((3 ≤ g.ea → usedA g = false) ∧ (3 ≤ g.eb → usedB (run tb.cfg ops).set g = false) ∧
     (3 ≤ g.ec → usedC (run tb.cfg ops).set g = false) ∧ (3 ≤ g.ed → usedD (run tb.cfg ops).set g = false)) :=
  ⟨C03_process tb.cfg _ g g' hs, C03_uncorrectable _ (reach tb h ops).2.setOk g⟩

/-- **C03 on reachable states (typed):** for every history, every pair of groups related by `ac3_sameUsed'`
has the same effect, and a block B with any code ≥ 3 is never used -/
theorem C03_typed (tb : Tabs) (h : EccOk tb) (ops : List Op) (g g' : Group)
    (hs : ac3_sameUsed' (run tb.cfg ops).set g g' = true) :
    process tb.cfg (run tb.cfg ops) g = process tb.cfg (run tb.cfg ops) g' ∧
    (3 ≤ g.eb → ac3_usedB' (run tb.cfg ops).set g = false) :=
  ⟨C03_process' tb.cfg _ g g' hs, ac3_uncorrectable' _ (reach tb h ops).2.setOk g⟩

end RDS
